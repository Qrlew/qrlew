/-! Inverting a `do` block over `Option` (core Lean only).  The models chain options in four ways only — a test, one bind, two
binds, a bind followed by a test; each is inverted once, here, and each has its `isSome` form. -/
namespace Qrlew
variable {α β γ : Type} {x : Option α} {y : Option β} {w : γ}

theorem ite_eq_some {c : Prop} [Decidable c] {r : γ} : (if c then some r else none) = some w ↔ c ∧ w = r := by
  rw [Option.ite_none_right_eq_some, Option.some.injEq, eq_comm]

theorem bind_pure_eq_some {g : α → γ} : (do pure (g (← x))) = some w ↔ ∃ a, x = some a ∧ w = g a :=
  Option.bind_eq_some_iff.trans <| exists_congr fun _ => and_congr_right' (Option.some_inj.trans eq_comm)

theorem bind₂_pure_eq_some {g : α → β → γ} :
    (do pure (g (← x) (← y))) = some w ↔ ∃ a b, x = some a ∧ y = some b ∧ w = g a b :=
  Option.bind_eq_some_iff.trans <| exists_congr fun _ => (and_congr_right' bind_pure_eq_some).trans exists_and_left.symm

theorem bind_ite_eq_some {c : α → Prop} [DecidablePred c] {g : α → γ} :
    (do let a ← x; if c a then pure (g a) else none) = some w ↔ ∃ a, x = some a ∧ c a ∧ w = g a :=
  Option.bind_eq_some_iff.trans <| exists_congr fun _ => and_congr_right' ite_eq_some

/-! … and when each of them is `some` at all -/

theorem isSome_ite {c : Bool} {r : γ} : (if c then some r else none).isSome = c := by cases c <;> rfl

theorem isSome_bind_pure {g : α → γ} : (do pure (g (← x))).isSome = x.isSome := by cases x <;> rfl

theorem isSome_bind₂_pure {g : α → β → γ} : (do pure (g (← x) (← y))).isSome = (x.isSome && y.isSome) := by
  cases x <;> cases y <;> rfl

theorem isSome_bind_ite {c : Bool} {g : α → γ} : (do let a ← x; if c then pure (g a) else none).isSome = (x.isSome && c) := by
  cases x <;> cases c <;> rfl


end Qrlew
