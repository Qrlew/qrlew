import QrlewModel.Lemmas.Intervals
import QrlewModel.Model.Monotone
/-! What the corner theorems of C06 rest on: an intersection stays inside every box that contains one of its operands, a
partition interval for one (whatever collapses to the hull happen on the way), and a value between two corner values lies
in their hull. -/
namespace Qrlew

/-- every interval of the list lies inside `[L, H]` -/
def WithinBox (L H : Int) (l : Ivs) : Prop := ∀ ab ∈ l, L ≤ ab.1 ∧ ab.2 ≤ H

/-- `g` is monotone or antitone on `[p, q]` -/
def DirMono (g : Int → Int) (p q : Int) : Prop :=
  (∀ u v, p ≤ u → u ≤ v → v ≤ q → g u ≤ g v) ∨ (∀ u v, p ≤ u → u ≤ v → v ≤ q → g v ≤ g u)

variable {cap : Nat} {L H lo hi a b : Int} {l r ps acc : Ivs}

theorem withinBox_nil : WithinBox L H [] := fun _ h => nomatch h

theorem withinBox_cons : WithinBox L H ((a, b) :: l) ↔ (L ≤ a ∧ b ≤ H) ∧ WithinBox L H l := List.forall_mem_cons

theorem unionIv_within (h : WithinBox L H l) (h1 : L ≤ lo) (h2 : hi ≤ H) : WithinBox L H (unionIv l lo hi) := by
  fun_induction unionIv l lo hi with
  | case1 lo hi => exact withinBox_cons.2 ⟨⟨h1, h2⟩, withinBox_nil⟩
  | case2 a b rest lo hi hb ih => have ⟨hab, hr⟩ := withinBox_cons.1 h; exact withinBox_cons.2 ⟨hab, ih hr h1 h2⟩
  | case3 a b rest lo hi hb ha => exact withinBox_cons.2 ⟨⟨h1, h2⟩, h⟩
  | case4 a b rest lo hi hb ha ih =>
    have ⟨hab, hr⟩ := withinBox_cons.1 h; exact ih hr (Int.le_min.2 ⟨hab.1, h1⟩) (Int.max_le.2 ⟨hab.2, h2⟩)

theorem lastHi_le (hb : b ≤ H) (h : WithinBox L H l) : lastHi b l ≤ H := by
  induction l generalizing b with
  | nil => exact hb
  | cons p rest ih => exact ih (withinBox_cons.1 h).1.2 (withinBox_cons.1 h).2

theorem hull_within (h : WithinBox L H l) : WithinBox L H (hull l) := by
  cases l with
  | nil => exact h
  | cons p rest =>
    have ⟨hp, hr⟩ := withinBox_cons.1 h
    exact withinBox_cons.2 ⟨⟨hp.1, lastHi_le hp.2 hr⟩, withinBox_nil⟩

theorem simplify_within (h : WithinBox L H l) : WithinBox L H (simplify cap l) :=
  simplify_cases (fun _ => h) fun _ => hull_within h

theorem foldl_union_within (hps : WithinBox L H ps) (h : WithinBox L H acc) :
    WithinBox L H (ps.foldl (fun acc p => unionInterval cap acc p.1 p.2) acc) :=
  List.foldlRecOn ps _ h fun _ hacc p hp => simplify_within (unionIv_within hacc (hps p hp).1 (hps p hp).2)

theorem union_within (hl : WithinBox L H l) (hr : WithinBox L H r) : WithinBox L H (union cap l r) := by
  unfold union; split
  · exact foldl_union_within hr hl
  · exact foldl_union_within hl hr

/-- an intersection with an interval lies in every box that contains one of the two -/
theorem interIv_within (h : WithinBox L H l ∨ (L ≤ lo ∧ hi ≤ H)) : WithinBox L H (interIv l lo hi) := by
  fun_induction interIv l lo hi with
  | case1 lo hi => exact withinBox_nil
  | case2 a b rest lo hi hb ih => exact ih (h.imp_left fun h => (withinBox_cons.1 h).2)
  | case3 a b rest lo hi hb ha => exact withinBox_nil
  | case4 a b rest lo hi hb ha ih =>
    -- the piece `[max a lo, min b hi]` lies in `[a, b]` and in `[lo, hi]`
    refine withinBox_cons.2 ⟨?_, ih (h.imp_left fun h => (withinBox_cons.1 h).2)⟩
    rcases h with h | h
    · have hab := (withinBox_cons.1 h).1
      exact ⟨Int.le_trans hab.1 (Int.le_max_left ..), Int.le_trans (Int.min_le_left ..) hab.2⟩
    · exact ⟨Int.le_trans h.1 (Int.le_max_right ..), Int.le_trans (Int.min_le_right ..) h.2⟩

theorem foldl_inter_within (h : WithinBox L H l ∨ WithinBox L H ps) (hacc : WithinBox L H acc) :
    WithinBox L H (ps.foldl (fun acc p => union cap acc (interInterval cap l p.1 p.2)) acc) :=
  List.foldlRecOn ps _ hacc fun _ hacc p hp =>
    union_within hacc (simplify_within (interIv_within (h.imp_right fun h => h p hp)))

/-- an intersection lies in every box that contains one of its operands, whatever capacity collapses happened on the way -/
theorem inter_within (h : WithinBox L H l ∨ WithinBox L H r) : WithinBox L H (inter cap l r) := by
  unfold inter; split
  · exact foldl_inter_within h (simplify_within withinBox_nil)
  · exact foldl_inter_within h.symm (simplify_within withinBox_nil)

/-- every interval of `s ∩ [p, q]` lies inside `[p, q]` -/
theorem inter_single_within (cap : Nat) (s : Ivs) (p q : Int) : WithinBox p q (inter cap s [(p, q)]) :=
  inter_within (Or.inr (withinBox_cons.2 ⟨⟨Int.le_refl p, Int.le_refl q⟩, withinBox_nil⟩))

/-- 1-D corner lemma: on an interval inside a monotone piece, values lie between the endpoint values -/
theorem dirMono_between (g : Int → Int) (p q a b x : Int) (h : DirMono g p q)
    (hpa : p ≤ a) (hax : a ≤ x) (hxb : x ≤ b) (hbq : b ≤ q) :
    min (g a) (g b) ≤ g x ∧ g x ≤ max (g a) (g b) := by
  have hpx := Int.le_trans hpa hax
  have hxq := Int.le_trans hxb hbq
  rcases h with h | h
  · exact ⟨Int.le_trans (Int.min_le_left ..) (h a x hpa hax hxq), Int.le_trans (h x b hpx hxb hbq) (Int.le_max_right ..)⟩
  · exact ⟨Int.le_trans (Int.min_le_right ..) (h x b hpx hxb hbq), Int.le_trans (h a x hpa hax hxq) (Int.le_max_left ..)⟩

theorem min_le_max (a b : Int) : min a b ≤ max a b := Int.le_trans (Int.min_le_left ..) (Int.le_max_left ..)

/-- a pair put in order is `(min, max)` (`imageIvs` orders the mapped endpoints this way) -/
theorem ordered_pair_eq (u v : Int) : (if u < v then (u, v) else (v, u)) = (min u v, max u v) := by
  split
  next h => rw [Int.min_eq_left (Int.le_of_lt h), Int.max_eq_right (Int.le_of_lt h)]
  next h => rw [Int.min_eq_right (Int.not_lt.1 h), Int.max_eq_left (Int.not_lt.1 h)]

theorem min4_le_max4 (a b c d : Int) : min4 a b c d ≤ max4 a b c d :=
  Int.le_trans (Int.min_le_left ..) (Int.le_trans (min_le_max a b) (Int.le_max_left ..))

theorem min_mono {p q u v : Int} (hp : p ≤ u) (hq : q ≤ v) : min p q ≤ min u v :=
  Int.le_min.2 ⟨Int.le_trans (Int.min_le_left ..) hp, Int.le_trans (Int.min_le_right ..) hq⟩

theorem max_mono {p q u v : Int} (hp : p ≤ u) (hq : q ≤ v) : max p q ≤ max u v :=
  Int.max_le.2 ⟨Int.le_trans hp (Int.le_max_left ..), Int.le_trans hq (Int.le_max_right ..)⟩

/-- 2-D corner lemma, the arithmetic: `w` between `u` and `v`, each of them between two corner values, lies in the hull of
the four corners. -/
theorem between4 {a b c d u v w : Int} (hw : min u v ≤ w ∧ w ≤ max u v) (hu : min a b ≤ u ∧ u ≤ max a b)
    (hv : min c d ≤ v ∧ v ≤ max c d) : min4 a b c d ≤ w ∧ w ≤ max4 a b c d :=
  ⟨Int.le_trans (min_mono hu.1 hv.1) hw.1, Int.le_trans hw.2 (max_mono hu.2 hv.2)⟩

end Qrlew
