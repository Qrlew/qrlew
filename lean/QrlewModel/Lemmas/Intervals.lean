import QrlewModel.Model.Intervals
/-! The interval-set model keeps its representation invariant and never loses a point (core Lean only).

Three layers: the two list recursions `unionIv` / `interIv` are exact (`interIv` on well-formed lists, `unionIv` on any) and
keep well-formedness; `hull` / `simplify` keep every point and bring the length below the capacity; the exposed operations
(`unionInterval`, `interInterval`, the folds `union`, `inter`, `fromIntervals`) are compositions of those.  What is exact
below the capacity is in `IntervalsExact`. -/
namespace Qrlew

/-- Denotation: `x` lies in one of the intervals. -/
def Mem (x : Int) (l : Ivs) : Prop := ∃ p ∈ l, p.1 ≤ x ∧ x ≤ p.2

instance (x : Int) (l : Ivs) : Decidable (Mem x l) := by unfold Mem; infer_instance

/-- every interval is non-empty, starts strictly above `m`, and the list is strictly ascending and disjoint. -/
def SortedAbove : Int → Ivs → Prop
  | _, [] => True
  | m, (a, b) :: rest => m < a ∧ a ≤ b ∧ SortedAbove b rest

/-- Well-formedness of an interval list: sorted, pairwise disjoint, each interval non-empty. -/
def WF : Ivs → Prop
  | [] => True
  | (a, b) :: rest => a ≤ b ∧ SortedAbove b rest

/-- Representation invariant of `Intervals<B>`: sorted, disjoint, non-empty intervals, fewer than `cap`. -/
def Good (cap : Nat) (l : Ivs) : Prop := WF l ∧ l.length < cap

variable {cap : Nat} {l r ps acc rest : Ivs} {lo hi x m m' a b : Int}

theorem SortedAbove.weaken (h : SortedAbove m l) (hm : m' ≤ m) : SortedAbove m' l := by
  cases l with
  | nil => trivial
  | cons p rest => exact ⟨Int.lt_of_le_of_lt hm h.1, h.2⟩

theorem SortedAbove.tail (h : SortedAbove m ((a, b) :: rest)) : SortedAbove m rest :=
  h.2.2.weaken (Int.le_trans (Int.le_of_lt h.1) h.2.1)

theorem SortedAbove.wf (h : SortedAbove m l) : WF l := by
  cases l with
  | nil => trivial
  | cons p rest => exact h.2

theorem WF.sortedAbove (h : WF ((a, b) :: rest)) (hm : m < a) : SortedAbove m ((a, b) :: rest) := ⟨hm, h⟩

theorem WF.tail (h : WF ((a, b) :: rest)) : WF rest := h.2.wf

theorem WF.exists_sortedAbove (h : WF l) : ∃ m, SortedAbove m l := by
  cases l with
  | nil => exact ⟨0, trivial⟩
  | cons p _ => exact ⟨p.1 - 1, h.sortedAbove (by omega)⟩

theorem WF.le_of_mem (h : WF l) : ∀ p ∈ l, p.1 ≤ p.2 := by
  induction l with
  | nil => exact fun _ hp => nomatch hp
  | cons p rest ih => exact List.forall_mem_cons.2 ⟨h.1, ih h.tail⟩

@[simp] theorem mem_nil (x : Int) : Mem x [] ↔ False := by simp [Mem]

@[simp] theorem mem_cons (x a b : Int) (rest : Ivs) :
    Mem x ((a, b) :: rest) ↔ (a ≤ x ∧ x ≤ b) ∨ Mem x rest := by
  simp only [Mem, List.mem_cons, exists_eq_or_imp]

theorem mem_above (h : SortedAbove m l) (hx : Mem x l) : m < x := by
  induction l generalizing m with
  | nil => exact ((mem_nil x).1 hx).elim
  | cons p rest ih => exact ((mem_cons ..).1 hx).elim (fun hx => Int.lt_of_lt_of_le h.1 hx.1) (ih h.tail)

theorem mem_single {a b y : Int} : Mem y [(a, b)] ↔ a ≤ y ∧ y ≤ b := by rw [mem_cons, mem_nil, or_false]

/-- a well-formed list of which `x` is the only member is the point set `{x}` -/
theorem WF.eq_point {l : Ivs} {x : Int} (h : WF l) (hx : Mem x l) (only : ∀ y, Mem y l → y = x) : l = [(x, x)] := by
  cases l with
  | nil => exact ((mem_nil x).1 hx).elim
  | cons p rest =>
    obtain ⟨a, b⟩ := p
    have ha : a = x := only a ((mem_cons ..).2 (Or.inl ⟨Int.le_refl a, h.1⟩))
    have hb : b = x := only b ((mem_cons ..).2 (Or.inl ⟨h.1, Int.le_refl b⟩))
    cases rest with
    | nil => rw [ha, hb]
    | cons q _ =>
      -- a second interval would start above `b = x`, and its start is a member
      obtain ⟨c, d⟩ := q
      have hc : c = x := only c ((mem_cons ..).2 (Or.inr ((mem_cons ..).2 (Or.inl ⟨Int.le_refl c, h.2.2.1⟩))))
      exact absurd h.2.1 (by rw [hb, hc]; exact Int.lt_irrefl x)

/-! ### union_interval -/

theorem unionIv_sortedAbove (h : SortedAbove m l) (hm : m < lo) (hlh : lo ≤ hi) :
    SortedAbove m (unionIv l lo hi) := by
  fun_induction unionIv l lo hi generalizing m with
  | case1 lo hi => exact ⟨hm, hlh, trivial⟩
  | case2 a b rest lo hi hb ih => exact ⟨h.1, h.2.1, ih h.2.2 hb hlh⟩
  | case3 a b rest lo hi hb ha => exact ⟨hm, hlh, ha, h.2⟩
  | case4 a b rest lo hi hb ha ih =>
    exact ih h.tail (Int.lt_min.2 ⟨h.1, hm⟩) (Int.le_trans (Int.min_le_left ..) (Int.le_trans h.2.1 (Int.le_max_left ..)))

theorem unionIv_wf (h : WF l) (hlh : lo ≤ hi) : WF (unionIv l lo hi) :=
  have ⟨m, hm⟩ := h.exists_sortedAbove
  (unionIv_sortedAbove (hm.weaken (Int.min_le_left m (lo - 1))) (by omega) hlh).wf

/-- two intervals that meet: their hull is their union -/
theorem hull_bounds (hb : ¬b < lo) (ha : ¬hi < a) :
    min a lo ≤ x ∧ x ≤ max b hi ↔ (a ≤ x ∧ x ≤ b) ∨ (lo ≤ x ∧ x ≤ hi) := by omega

/-- `union_interval` is exact before simplification: it adds exactly the points of `[lo, hi]` (to any list, sorted or not). -/
theorem mem_unionIv : Mem x (unionIv l lo hi) ↔ Mem x l ∨ (lo ≤ x ∧ x ≤ hi) := by
  fun_induction unionIv l lo hi with
  | case1 lo hi => rw [mem_cons, or_comm]
  | case2 a b rest lo hi hb ih => rw [mem_cons, mem_cons, ih, or_assoc]
  | case3 a b rest lo hi hb ha => rw [mem_cons, or_comm]
  | case4 a b rest lo hi hb ha ih => rw [ih, mem_cons, hull_bounds hb ha, or_left_comm, or_assoc]

/-! ### intersection_interval -/

theorem interIv_sortedAbove (h : SortedAbove m l) (hlh : lo ≤ hi) : SortedAbove m (interIv l lo hi) := by
  fun_induction interIv l lo hi generalizing m with
  | case1 lo hi => trivial
  | case2 a b rest lo hi hb ih => exact ih h.tail hlh
  | case3 a b rest lo hi hb ha => trivial
  | case4 a b rest lo hi hb ha ih =>
    -- `[a, b]` and `[lo, hi]` meet (`hb`, `ha`), so the piece `[max a lo, min b hi]` is not empty
    exact ⟨Int.lt_of_lt_of_le h.1 (Int.le_max_left ..),
      Int.max_le.2 ⟨Int.le_min.2 ⟨h.2.1, Int.not_lt.1 ha⟩, Int.le_min.2 ⟨Int.not_lt.1 hb, hlh⟩⟩,
      (ih h.2.2 hlh).weaken (Int.min_le_left ..)⟩

theorem interIv_wf (h : WF l) (hlh : lo ≤ hi) : WF (interIv l lo hi) :=
  have ⟨_, hm⟩ := h.exists_sortedAbove
  (interIv_sortedAbove hm hlh).wf

theorem inter_bounds : max a lo ≤ x ∧ x ≤ min b hi ↔ (a ≤ x ∧ x ≤ b) ∧ (lo ≤ x ∧ x ≤ hi) := by
  rw [Int.max_le, Int.le_min]; exact and_and_and_comm

/-- `intersection_interval` is exact before simplification. -/
theorem mem_interIv (h : WF l) : Mem x (interIv l lo hi) ↔ Mem x l ∧ (lo ≤ x ∧ x ≤ hi) := by
  fun_induction interIv l lo hi with
  | case1 lo hi => rw [mem_nil, false_and]
  | case2 a b rest lo hi hb ih =>
    rw [mem_cons, ih h.tail]
    exact and_congr_left fun _ => (or_iff_right fun _ => by omega).symm
  | case3 a b rest lo hi hb ha =>
    -- the scan stops at the first interval beyond `hi`: the list is ascending, so nothing later reaches down to `hi`
    rw [mem_cons, mem_nil, false_iff]
    rintro ⟨_ | hr, _⟩
    · omega
    · have := mem_above h.2 hr; have := h.1; omega
  | case4 a b rest lo hi hb ha ih => rw [mem_cons, mem_cons, ih h.tail, or_and_right, inter_bounds]

theorem interIv_length (l : Ivs) (lo hi : Int) : (interIv l lo hi).length ≤ l.length := by
  fun_induction interIv l lo hi <;> simp <;> omega

theorem unionIv_length (l : Ivs) (lo hi : Int) : (unionIv l lo hi).length ≤ l.length + 1 := by
  fun_induction unionIv l lo hi <;> simp <;> omega

/-! ### hull / to_simple_superset -/

theorem lastHi_ge (h : SortedAbove b rest) : b ≤ lastHi b rest ∧ ∀ x, Mem x rest → x ≤ lastHi b rest := by
  induction rest generalizing b with
  | nil => exact ⟨Int.le_refl _, fun _ hx => ((mem_nil _).1 hx).elim⟩
  | cons p rest ih =>
    have ih := ih h.2.2
    exact ⟨Int.le_trans (Int.le_trans (Int.le_of_lt h.1) h.2.1) ih.1,
      fun x hx => ((mem_cons ..).1 hx).elim (fun hx => Int.le_trans hx.2 ih.1) (ih.2 x)⟩

theorem hull_wf (h : WF l) : WF (hull l) := by
  cases l with
  | nil => trivial
  | cons p rest => exact ⟨Int.le_trans h.1 (lastHi_ge h.2).1, trivial⟩

/-- The hull never loses a point. -/
theorem mem_hull (h : WF l) (hx : Mem x l) : Mem x (hull l) := by
  cases l with
  | nil => exact hx
  | cons p rest =>
    obtain ⟨a, b⟩ := p
    have hl := lastHi_ge h.2
    refine (mem_cons ..).2 (Or.inl ?_)
    rcases (mem_cons ..).1 hx with hx | hx
    · exact ⟨hx.1, Int.le_trans hx.2 hl.1⟩
    · exact ⟨Int.le_trans h.1 (Int.le_of_lt (mem_above h.2 hx)), hl.2 x hx⟩

theorem hull_length (l : Ivs) : (hull l).length ≤ 1 := by
  cases l <;> simp [hull]

/-- `to_simple_superset` returns its argument while that is shorter than the capacity, and the hull otherwise -/
theorem simplify_cases {P : Ivs → Prop} (h1 : l.length < cap → P l) (h2 : ¬l.length < cap → P (hull l)) :
    P (simplify cap l) := by
  unfold simplify; split
  · exact h1 ‹_›
  · exact h2 ‹_›

theorem simplify_wf (h : WF l) : WF (simplify cap l) := simplify_cases (fun _ => h) fun _ => hull_wf h

/-- `to_simple_superset` never loses a point. -/
theorem mem_simplify (h : WF l) (hx : Mem x l) : Mem x (simplify cap l) :=
  simplify_cases (fun _ => hx) fun _ => mem_hull h hx

/-- After simplification the number of intervals is strictly below the capacity. -/
theorem simplify_length (hc : 2 ≤ cap) (l : Ivs) : (simplify cap l).length < cap :=
  simplify_cases (P := fun s => s.length < cap) id fun _ => Nat.lt_of_le_of_lt (hull_length l) hc

theorem simplify_eq_of_lt (h : l.length < cap) : simplify cap l = l := if_pos h

theorem simplify_nil : simplify cap [] = [] := ite_self _

/-! ### the exposed operations keep the representation invariant and never lose points -/

theorem Good.nil (hc : 2 ≤ cap) : Good cap [] := ⟨trivial, Nat.lt_of_lt_of_le Nat.zero_lt_two hc⟩

theorem Good.single (hc : 2 ≤ cap) (h : a ≤ b) : Good cap [(a, b)] := ⟨⟨h, trivial⟩, hc⟩

/-- `to_simple_superset` establishes the representation invariant, which is why every exposed operation ends with it -/
theorem simplify_good (hc : 2 ≤ cap) (h : WF l) : Good cap (simplify cap l) := ⟨simplify_wf h, simplify_length hc l⟩

theorem good_empty (hc : 2 ≤ cap) : Good cap (simplify cap []) := simplify_good hc trivial

theorem unionInterval_good (hc : 2 ≤ cap) (h : WF l) (hlh : lo ≤ hi) : Good cap (unionInterval cap l lo hi) :=
  simplify_good hc (unionIv_wf h hlh)

theorem mem_unionInterval (cap : Nat) (l : Ivs) (lo hi x : Int) (h : WF l) (hlh : lo ≤ hi)
    (hx : Mem x l ∨ (lo ≤ x ∧ x ≤ hi)) : Mem x (unionInterval cap l lo hi) :=
  mem_simplify (unionIv_wf h hlh) (mem_unionIv.2 hx)

theorem interInterval_good (hc : 2 ≤ cap) (h : WF l) (hlh : lo ≤ hi) : Good cap (interInterval cap l lo hi) :=
  simplify_good hc (interIv_wf h hlh)

theorem mem_interInterval (h : WF l) (hx : Mem x l) (hr : lo ≤ x ∧ x ≤ hi) : Mem x (interInterval cap l lo hi) :=
  mem_simplify (interIv_wf h (Int.le_trans hr.1 hr.2)) ((mem_interIv h).2 ⟨hx, hr⟩)

theorem foldl_union_good (hc : 2 ≤ cap) (hps : ∀ p ∈ ps, p.1 ≤ p.2) (h : Good cap acc) :
    Good cap (ps.foldl (fun acc p => unionInterval cap acc p.1 p.2) acc) :=
  List.foldlRecOn ps _ h fun _ hacc p hp => unionInterval_good hc hacc.1 (hps p hp)

theorem mem_foldl_union (hc : 2 ≤ cap) (hps : ∀ p ∈ ps, p.1 ≤ p.2) (h : Good cap acc) (hx : Mem x acc ∨ Mem x ps) :
    Mem x (ps.foldl (fun acc p => unionInterval cap acc p.1 p.2) acc) := by
  induction ps generalizing acc with
  | nil => exact hx.resolve_right (mem_nil x).1
  | cons p ps ih =>
    have ⟨hab, hps⟩ := List.forall_mem_cons.1 hps
    rw [mem_cons, ← or_assoc] at hx
    exact ih hps (unionInterval_good hc h.1 hab) (hx.imp_left (mem_unionInterval _ _ _ _ _ h.1 hab))

theorem union_good (hc : 2 ≤ cap) (hl : Good cap l) (hr : Good cap r) : Good cap (union cap l r) := by
  unfold union; split
  · exact foldl_union_good hc hr.1.le_of_mem hl
  · exact foldl_union_good hc hl.1.le_of_mem hr

theorem mem_union (hc : 2 ≤ cap) (hl : Good cap l) (hr : Good cap r) (hx : Mem x l ∨ Mem x r) :
    Mem x (union cap l r) := by
  unfold union; split
  · exact mem_foldl_union hc hr.1.le_of_mem hl hx
  · exact mem_foldl_union hc hl.1.le_of_mem hr hx.symm

theorem fromIntervals_good (hc : 2 ≤ cap) (hps : ∀ p ∈ ps, p.1 ≤ p.2) : Good cap (fromIntervals cap ps) :=
  foldl_union_good hc hps (good_empty hc)

theorem mem_fromIntervals (hc : 2 ≤ cap) (hps : ∀ p ∈ ps, p.1 ≤ p.2) (hx : Mem x ps) : Mem x (fromIntervals cap ps) :=
  mem_foldl_union hc hps (good_empty hc) (Or.inr hx)

theorem foldl_inter_good (hc : 2 ≤ cap) (hl : WF l) (hps : ∀ p ∈ ps, p.1 ≤ p.2) (h : Good cap acc) :
    Good cap (ps.foldl (fun acc p => union cap acc (interInterval cap l p.1 p.2)) acc) :=
  List.foldlRecOn ps _ h fun _ hacc p hp => union_good hc hacc (interInterval_good hc hl (hps p hp))

theorem mem_foldl_inter (hc : 2 ≤ cap) (hl : WF l) (hps : ∀ p ∈ ps, p.1 ≤ p.2) (h : Good cap acc)
    (hx : Mem x acc ∨ (Mem x l ∧ Mem x ps)) :
    Mem x (ps.foldl (fun acc p => union cap acc (interInterval cap l p.1 p.2)) acc) := by
  induction ps generalizing acc with
  | nil => exact hx.resolve_right fun h => (mem_nil x).1 h.2
  | cons p ps ih =>
    have ⟨hab, hps⟩ := List.forall_mem_cons.1 hps
    have hg : Good cap (interInterval cap l p.1 p.2) := interInterval_good hc hl hab
    rw [mem_cons, and_or_left, ← or_assoc] at hx
    exact ih hps (union_good hc h hg) (hx.imp_left fun hx =>
      mem_union hc h hg (hx.imp_right fun hx => mem_interInterval hl hx.1 hx.2))

theorem inter_good (hc : 2 ≤ cap) (hl : Good cap l) (hr : Good cap r) : Good cap (inter cap l r) := by
  unfold inter; split
  · exact foldl_inter_good hc hl.1 hr.1.le_of_mem (good_empty hc)
  · exact foldl_inter_good hc hr.1 hl.1.le_of_mem (good_empty hc)

theorem mem_inter (hc : 2 ≤ cap) (hl : Good cap l) (hr : Good cap r) (hxl : Mem x l) (hxr : Mem x r) :
    Mem x (inter cap l r) := by
  unfold inter; split
  · exact mem_foldl_inter hc hl.1 hr.1.le_of_mem (good_empty hc) (Or.inr ⟨hxl, hxr⟩)
  · exact mem_foldl_inter hc hr.1 hl.1.le_of_mem (good_empty hc) (Or.inr ⟨hxr, hxl⟩)

end Qrlew
