import QrlewModel.Model.DpEvent
namespace Qrlew.DpEvent
variable {K : Type} (z : K → Bool)

theorem eq_true_iff_ite_nil {α : Type} (p : Bool) (a : α) : p = true ↔ (if p then [] else [a]) = [] := by
  cases p <;> simp

mutual
/-- `is_no_op` answers yes exactly for the events that record no mechanism: the two functions recurse alike, and on a
mechanism `leaves` tests the very condition `is_no_op` returns -/
theorem isNoOp_iff_leaves_nil : ∀ e : DpEvent K, isNoOp z e = true ↔ leaves z e = []
  | .noOp => ⟨fun _ => rfl, fun _ => rfl⟩
  | .gaussian m => eq_true_iff_ite_nil (z m) _
  | .epsilonDelta a b => eq_true_iff_ite_nil (z a && z b) _
  | .composed es => allNoOp_iff_leavesL_nil es
theorem allNoOp_iff_leavesL_nil : ∀ es : List (DpEvent K), allNoOp z es = true ↔ leavesL z es = []
  | [] => ⟨fun _ => rfl, fun _ => rfl⟩
  | e :: es => by
    show (isNoOp z e && allNoOp z es) = true ↔ leaves z e ++ leavesL z es = []
    rw [Bool.and_eq_true, List.append_eq_nil_iff, isNoOp_iff_leaves_nil e, allNoOp_iff_leavesL_nil es]
end

theorem leaves_of_isNoOp : ∀ (e : DpEvent K), isNoOp z e = true → leaves z e = [] :=
  fun e => (isNoOp_iff_leaves_nil z e).mp

theorem leavesL_of_allNoOp : ∀ (es : List (DpEvent K)), allNoOp z es = true → leavesL z es = [] :=
  fun es => (allNoOp_iff_leavesL_nil z es).mp

theorem leavesL_append (a b : List (DpEvent K)) : leavesL z (a ++ b) = leavesL z a ++ leavesL z b := by
  induction a with
  | nil => rfl
  | cons e es ih => exact (congrArg (leaves z e ++ ·) ih).trans (List.append_assoc ..).symm

theorem leavesL_singleton (e : DpEvent K) : leavesL z [e] = leaves z e := List.append_nil _

/-- `k` copies of a Gaussian mechanism that is not a no-op are `k` entries -/
theorem leavesL_replicate_gaussian (m : K) (hm : z m = false) (k : Nat) :
    leavesL z (List.replicate k (.gaussian m)) = List.replicate k (.gaussian m) := by
  induction k with
  | zero => rfl
  | succ k ih =>
    show (if z m then [] else [gaussian m]) ++ leavesL z (List.replicate k (gaussian m)) = _
    rw [hm, ih]; rfl

end Qrlew.DpEvent
