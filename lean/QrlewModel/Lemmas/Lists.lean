/-! List facts shared by the property files (core Lean only).  Mostly about `List.eraseDups`, which keeps the first occurrence
of every element: the models' own `dedup` functions are proved equal to it where they are used, and inherit these facts. -/
namespace Qrlew.Lists
variable {α β : Type}

/-- if exactly one element of a list passes a test, it stands at one position: of two positions that pass, cut the list at
the later one — a passing element before the cut and one after it make two -/
theorem filter_singleton_position {l : List α} {P : α → Bool} {e x y : α} (hs : l.filter P = [e]) {i j : Nat}
    (hi : l[i]? = some x) (hj : l[j]? = some y) (hx : P x = true) (hy : P y = true) : i = j := by
  have two : ∀ {i j : Nat} {x y : α}, i < j → l[i]? = some x → l[j]? = some y → P x = true → P y = true → False := by
    intro i j x y hij hi hj hx hy
    have hc : l.countP P = 1 := by rw [List.countP_eq_length_filter, hs]; rfl
    rw [← List.take_append_drop j l, List.countP_append] at hc
    have h1 : 0 < (l.take j).countP P :=
      List.countP_pos_iff.mpr ⟨x, List.mem_of_getElem? (by rw [List.getElem?_take_of_lt hij]; exact hi), hx⟩
    have h2 : 0 < (l.drop j).countP P :=
      List.countP_pos_iff.mpr ⟨y, List.mem_of_getElem? (i := 0) (by rw [List.getElem?_drop]; exact hj), hy⟩
    omega
  rcases Nat.lt_trichotomy i j with hlt | heq | hlt
  · exact (two hlt hi hj hx hy).elim
  · exact heq
  · exact (two hlt hj hi hy hx).elim

/-- an earlier test that the later one implies can be left out -/
theorem filter_filter_of_imp {p q : α → Bool} {l : List α} (h : ∀ x ∈ l, p x = true → q x = true) :
    (l.filter q).filter p = l.filter p := by
  rw [List.filter_filter]
  exact List.filter_congr fun x hx => Bool.and_eq_left_iff_imp.mpr (h x hx)

variable [BEq α]

/-- The recursion of `List.eraseDups_cons`: the tail is filtered before the recursive call, so the induction is on the
length.  Every lemma below is an instance of it. -/
theorem eraseDups_rec {motive : List α → Prop} (nil : motive [])
    (cons : ∀ a as, motive (as.filter fun b => !b == a) → motive (a :: as)) : ∀ l, motive l
  | [] => nil
  | a :: as => cons a as (eraseDups_rec nil cons _)
termination_by l => l.length
decreasing_by exact Nat.lt_succ_of_le (List.length_filter_le _ _)

theorem eraseDups_sublist (l : List α) : l.eraseDups.Sublist l := by
  induction l using eraseDups_rec with
  | nil => simp
  | cons a as ih => rw [List.eraseDups_cons]; exact (ih.trans List.filter_sublist).cons_cons a

theorem eraseDups_length_le (l : List α) : l.eraseDups.length ≤ l.length := (eraseDups_sublist l).length_le

variable [LawfulBEq α]

theorem nodup_eraseDups (l : List α) : l.eraseDups.Nodup := by
  induction l using eraseDups_rec with
  | nil => simp
  | cons a as ih =>
    rw [List.eraseDups_cons, List.nodup_cons]
    exact ⟨fun h => by simpa using (List.mem_filter.mp (List.mem_eraseDups.mp h)).2, ih⟩

theorem eraseDups_of_nodup : ∀ {l : List α}, l.Nodup → l.eraseDups = l
  | [], _ => rfl
  | a :: as, h => by
    rw [List.nodup_cons] at h
    rw [List.eraseDups_cons, List.filter_eq_self.mpr, eraseDups_of_nodup h.2]
    intro b hb
    simpa using fun e : b = a => h.1 (e ▸ hb)

theorem filter_eraseDups (p : α → Bool) (l : List α) : l.eraseDups.filter p = (l.filter p).eraseDups := by
  induction l using eraseDups_rec with
  | nil => simp
  | cons a as ih =>
    rw [List.eraseDups_cons, List.filter_cons, List.filter_cons, ih]
    split
    · rw [List.eraseDups_cons, List.filter_filter, List.filter_filter]; simp only [Bool.and_comm]
    · -- `a` is dropped by `p`, so nothing that passes `p` equals it
      rename_i hp
      rw [filter_filter_of_imp fun x _ hx => by simpa using fun e : x = a => hp (e ▸ hx)]

/-- de-duplication commutes with a map that is injective on the list -/
theorem map_eraseDups [BEq β] [LawfulBEq β] (f : α → β) (l : List α) (hf : ∀ x ∈ l, ∀ y ∈ l, f x = f y → x = y) :
    l.eraseDups.map f = (l.map f).eraseDups := by
  induction l using eraseDups_rec with
  | nil => simp
  | cons a as ih =>
    have hsub : ∀ x ∈ as.filter (fun b => !b == a), x ∈ a :: as := fun x hx => List.mem_cons_of_mem _ (List.mem_filter.mp hx).1
    rw [List.eraseDups_cons, List.map_cons, List.map_cons, List.eraseDups_cons,
      ih fun x hx y hy => hf x (hsub x hx) y (hsub y hy), List.filter_map]
    congr 3
    apply List.filter_congr
    intro x hx
    have : (x == a) = (f x == f a) := Bool.eq_iff_iff.mpr <| by
      rw [beq_iff_eq, beq_iff_eq]
      exact ⟨congrArg f, hf x (List.mem_cons_of_mem _ hx) a List.mem_cons_self⟩
    exact congrArg not this

end Qrlew.Lists
