import QrlewModel.Model.Rules
namespace Qrlew

/-- A derivation is consistent with an annotated tree: same shape, every node's rule is one of the
node's candidates, and the rule's inputs are exactly the labels produced by the children. -/
def Consistent : Deriv → RTree → Prop
  | .leaf r, .leaf rs => r ∈ rs
  | .unary r d, .unary rs c => r ∈ rs ∧ fits1 r d.output = true ∧ Consistent d c
  | .binary r dl dr, .binary rs l r' =>
    r ∈ rs ∧ fits2 r dl.output dr.output = true ∧ Consistent dl l ∧ Consistent dr r'
  | _, _ => False

theorem Consistent.rule_mem {d : Deriv} {t : RTree} : Consistent d t → d.rule ∈ t.rules := by
  fun_induction Consistent d t with
  | case1 => exact id
  | case2 => exact (·.1)
  | case3 => exact (·.1)
  | case4 => exact False.elim

theorem mem_select_iff (t : RTree) (d : Deriv) : d ∈ select t ↔ Consistent d t := by
  constructor
  · -- what is selected is consistent: the lists `select` builds say where each member comes from
    induction t generalizing d with
    | leaf rs => intro h; obtain ⟨r, hr, rfl⟩ := List.mem_map.mp h; exact hr
    | unary rs c ih =>
      intro h
      obtain ⟨d', hd', h⟩ := List.mem_flatMap.mp h
      obtain ⟨r, hr, rfl⟩ := List.mem_map.mp h
      exact ⟨(List.mem_filter.mp hr).1, (List.mem_filter.mp hr).2, ih _ hd'⟩
    | binary rs l r ihl ihr =>
      intro h
      obtain ⟨a, ha, h⟩ := List.mem_flatMap.mp h
      obtain ⟨b, hb, h⟩ := List.mem_flatMap.mp h
      obtain ⟨r0, hr, rfl⟩ := List.mem_map.mp h
      exact ⟨(List.mem_filter.mp hr).1, (List.mem_filter.mp hr).2, ihl _ ha, ihr _ hb⟩
  · -- what is consistent is selected
    fun_induction Consistent d t with
    | case1 r rs => exact List.mem_map_of_mem
    | case2 r d rs c ih =>
      rintro ⟨hr, hf, hc⟩
      exact List.mem_flatMap.mpr ⟨d, ih hc, List.mem_map.mpr ⟨r, List.mem_filter.mpr ⟨hr, hf⟩, rfl⟩⟩
    | case3 r a b rs l r' ihl ihr =>
      rintro ⟨hr, hf, hl, hr'⟩
      exact List.mem_flatMap.mpr ⟨a, ihl hl, List.mem_flatMap.mpr ⟨b, ihr hr',
        List.mem_map.mpr ⟨r, List.mem_filter.mpr ⟨hr, hf⟩, rfl⟩⟩⟩
    | case4 => exact False.elim
/-- elimination filters a node's rules by what its (eliminated) children can still produce: exactly the filter a consistent
derivation passes -/
theorem eliminate_consistent_iff (t : RTree) (d : Deriv) :
    Consistent d (eliminate t) ↔ Consistent d t := by
  induction t generalizing d with
  | leaf rs => cases d <;> exact Iff.rfl
  | unary rs c ih =>
    cases d with
    | unary r d' =>
      constructor
      · rintro ⟨hr, hf, hc⟩; exact ⟨(List.mem_filter.mp hr).1, hf, (ih _).mp hc⟩
      · rintro ⟨hr, hf, hc⟩
        -- the child's rule is kept in the child, and it is what `r` fits
        exact ⟨List.mem_filter.mpr ⟨hr, List.any_eq_true.mpr ⟨d'.rule, ((ih _).mpr hc).rule_mem, hf⟩⟩, hf, (ih _).mpr hc⟩
    | _ => exact Iff.rfl
  | binary rs l r ihl ihr =>
    cases d with
    | binary r0 a b =>
      constructor
      · rintro ⟨hr, hf, hl, hr'⟩; exact ⟨(List.mem_filter.mp hr).1, hf, (ihl _).mp hl, (ihr _).mp hr'⟩
      · rintro ⟨hr, hf, hl, hr'⟩
        have ⟨hf1, hf2⟩ := Bool.and_eq_true_iff.mp hf
        exact ⟨List.mem_filter.mpr ⟨hr, Bool.and_eq_true_iff.mpr
          ⟨List.any_eq_true.mpr ⟨a.rule, ((ihl _).mpr hl).rule_mem, hf1⟩,
            List.any_eq_true.mpr ⟨b.rule, ((ihr _).mpr hr').rule_mem, hf2⟩⟩⟩, hf, (ihl _).mpr hl, (ihr _).mpr hr'⟩
    | _ => exact Iff.rfl
theorem eliminate_rules_exact (t : RTree) (r : Rule) :
    r ∈ (eliminate t).rules ↔ ∃ d, Consistent d t ∧ d.rule = r := by
  constructor
  · -- a rule is kept because rules it fits were kept below: put their derivations under it
    induction t generalizing r with
    | leaf rs => exact fun h => ⟨.leaf r, h, rfl⟩
    | unary rs c ih =>
      intro h
      obtain ⟨hr, hany⟩ := List.mem_filter.mp h
      obtain ⟨q, hq, hf⟩ := List.any_eq_true.mp hany
      obtain ⟨d', hd', rfl⟩ := ih q hq
      exact ⟨.unary r d', ⟨hr, hf, hd'⟩, rfl⟩
    | binary rs l r' ihl ihr =>
      intro h
      obtain ⟨hr, hany⟩ := List.mem_filter.mp h
      obtain ⟨h1, h2⟩ := Bool.and_eq_true_iff.mp hany
      obtain ⟨q1, hq1, hf1⟩ := List.any_eq_true.mp h1
      obtain ⟨q2, hq2, hf2⟩ := List.any_eq_true.mp h2
      obtain ⟨d1, hd1, rfl⟩ := ihl q1 hq1
      obtain ⟨d2, hd2, rfl⟩ := ihr q2 hq2
      exact ⟨.binary r d1 d2, ⟨hr, Bool.and_eq_true_iff.mpr ⟨hf1, hf2⟩, hd1, hd2⟩, rfl⟩
  · rintro ⟨d, hd, rfl⟩
    exact ((eliminate_consistent_iff t d).mpr hd).rule_mem
/-! ### max_by -/

/-- the running maximum of `max_by`'s fold is the start value or an element, and no element scores higher -/
theorem foldl_max_spec {α : Type} (f : α → Nat) : ∀ (xs : List α) (x : α),
    xs.foldl (fun best y => if f best ≤ f y then y else best) x ∈ x :: xs ∧
      ∀ y ∈ x :: xs, f y ≤ f (xs.foldl (fun best y => if f best ≤ f y then y else best) x)
  | [], x => ⟨List.mem_cons_self, by simp⟩
  | a :: t, x => by
    rw [List.foldl_cons]
    have ⟨h1, h2⟩ := foldl_max_spec f t (if f x ≤ f a then a else x)
    have hb := h2 _ List.mem_cons_self
    refine ⟨?_, fun y hy => ?_⟩
    · rcases List.mem_cons.mp h1 with h | h
      · rw [h]; split <;> simp
      · exact List.mem_cons_of_mem _ (List.mem_cons_of_mem _ h)
    · -- the new running value scores at least as high as `x` and as `a`
      rcases List.mem_cons.mp hy with rfl | hy
      · exact Nat.le_trans (by split <;> omega) hb
      · rcases List.mem_cons.mp hy with rfl | hy
        · exact Nat.le_trans (by split <;> omega) hb
        · exact h2 y (List.mem_cons_of_mem _ hy)

theorem maxBy_none_iff {α : Type} (f : α → Nat) (l : List α) : maxBy f l = none ↔ l = [] := by
  cases l <;> simp [maxBy]

theorem maxBy_some {α : Type} (f : α → Nat) (l : List α) (m : α) (h : maxBy f l = some m) :
    m ∈ l ∧ ∀ y ∈ l, f y ≤ f m := by
  cases l with
  | nil => cases h
  | cons x xs => cases h; exact foldl_max_spec f xs x

end Qrlew
