import QrlewModel.Lemmas.Intervals
/-! The interval-set operations are exact while no simplification to the hull can happen (core Lean only).
Each fold lemma carries the denotation and a length bound together, because the length bound of one step is what keeps
the next step below the capacity. -/
namespace Qrlew
variable {cap : Nat} {l r ps acc : Ivs} {lo hi : Int}

theorem simplify_length_le (hc : 2 ≤ cap) (l : Ivs) : (simplify cap l).length ≤ l.length :=
  simplify_cases (P := fun s => s.length ≤ l.length) (fun _ => Nat.le_refl _) fun _ => by have := hull_length l; omega

theorem unionInterval_length_le (hc : 2 ≤ cap) (l : Ivs) (lo hi : Int) :
    (unionInterval cap l lo hi).length ≤ l.length + 1 :=
  Nat.le_trans (simplify_length_le hc _) (unionIv_length l lo hi)

theorem interInterval_length_le (hc : 2 ≤ cap) (l : Ivs) (lo hi : Int) :
    (interInterval cap l lo hi).length ≤ l.length :=
  Nat.le_trans (simplify_length_le hc _) (interIv_length l lo hi)

theorem mem_unionInterval_iff (x : Int) (hlen : l.length + 1 < cap) :
    Mem x (unionInterval cap l lo hi) ↔ Mem x l ∨ (lo ≤ x ∧ x ≤ hi) := by
  rw [unionInterval, simplify_eq_of_lt (Nat.lt_of_le_of_lt (unionIv_length l lo hi) hlen)]
  exact mem_unionIv

theorem mem_interInterval_iff (x : Int) (h : Good cap l) :
    Mem x (interInterval cap l lo hi) ↔ Mem x l ∧ (lo ≤ x ∧ x ≤ hi) := by
  rw [interInterval, simplify_eq_of_lt (Nat.lt_of_le_of_lt (interIv_length l lo hi) h.2)]
  exact mem_interIv h.1

/-- folding `union_interval` over `ps` is exact and grows by at most `ps.length` while the capacity is not reached -/
theorem foldl_union_exact (hc : 2 ≤ cap) (x : Int) (hlen : acc.length + ps.length < cap) :
    (Mem x (ps.foldl (fun acc p => unionInterval cap acc p.1 p.2) acc) ↔ Mem x acc ∨ Mem x ps) ∧
    (ps.foldl (fun acc p => unionInterval cap acc p.1 p.2) acc).length ≤ acc.length + ps.length := by
  induction ps generalizing acc with
  | nil => simp
  | cons p ps ih =>
    simp only [List.foldl, List.length_cons] at hlen ⊢
    have hl1 := unionInterval_length_le hc acc p.1 p.2
    have ⟨ih1, ih2⟩ := ih (acc := unionInterval cap acc p.1 p.2) (by omega)
    exact ⟨by rw [ih1, mem_unionInterval_iff x (by omega), mem_cons, or_assoc], by omega⟩

/-- below the capacity `union` is exact, on any two lists -/
theorem union_exact (hc : 2 ≤ cap) (hlen : l.length + r.length < cap) (x : Int) :
    (Mem x (union cap l r) ↔ Mem x l ∨ Mem x r) ∧ (union cap l r).length ≤ l.length + r.length := by
  unfold union; split
  · exact foldl_union_exact hc x hlen
  · have := foldl_union_exact hc x (ps := l) (acc := r) (by omega)
    exact ⟨this.1.trans or_comm, by omega⟩

/-- the fold inside `intersection` is exact while the crude bound `acc + |ps|·|l|` stays below the capacity -/
theorem foldl_inter_exact (hc : 2 ≤ cap) (hl : Good cap l) (x : Int) (hlen : acc.length + ps.length * l.length < cap) :
    (Mem x (ps.foldl (fun acc p => union cap acc (interInterval cap l p.1 p.2)) acc) ↔ Mem x acc ∨ (Mem x l ∧ Mem x ps)) ∧
    (ps.foldl (fun acc p => union cap acc (interInterval cap l p.1 p.2)) acc).length ≤ acc.length + ps.length * l.length := by
  induction ps generalizing acc with
  | nil => simp
  | cons p ps ih =>
    simp only [List.foldl, List.length_cons, Nat.succ_mul] at hlen ⊢
    have hpl := interInterval_length_le hc l p.1 p.2
    have ⟨hu1, hu2⟩ := union_exact hc (l := acc) (r := interInterval cap l p.1 p.2) (by omega) x
    have ⟨ih1, ih2⟩ := ih (acc := union cap acc (interInterval cap l p.1 p.2)) (by omega)
    exact ⟨by rw [ih1, hu1, mem_interInterval_iff x hl, mem_cons, and_or_left, or_assoc], by omega⟩

theorem inter_exact (hc : 2 ≤ cap) (hl : Good cap l) (hr : Good cap r) (hlen : l.length * r.length < cap) (x : Int) :
    Mem x (inter cap l r) ↔ Mem x l ∧ Mem x r := by
  unfold inter; rw [simplify_nil]; split
  · rw [(foldl_inter_exact hc hl x (by simpa [Nat.mul_comm] using hlen)).1, mem_nil, false_or]
  · rw [(foldl_inter_exact hc hr x (by simpa using hlen)).1, mem_nil, false_or, and_comm]

end Qrlew
