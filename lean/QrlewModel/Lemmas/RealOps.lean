import QrlewModel.Lemmas.Reals
/-! The operations of `realOps` are those of `ℝ`: with these, a proof over `ℝ` never unfolds the structure. -/
namespace Qrlew

@[simp] theorem realOps_add (a b : ℝ) : realOps.add a b = a + b := rfl
@[simp] theorem realOps_sub (a b : ℝ) : realOps.sub a b = a - b := rfl
@[simp] theorem realOps_mul (a b : ℝ) : realOps.mul a b = a * b := rfl
@[simp] theorem realOps_div (a b : ℝ) : realOps.div a b = a / b := rfl
@[simp] theorem realOps_max (a b : ℝ) : realOps.max a b = max a b := rfl
@[simp] theorem realOps_sqrt (a : ℝ) : realOps.sqrt a = Real.sqrt a := rfl
@[simp] theorem realOps_ln (a : ℝ) : realOps.ln a = Real.log a := rfl
@[simp] theorem realOps_c125 : realOps.c125 = 1.25 := rfl
@[simp] theorem realOps_ofNat (n : ℕ) : realOps.ofNat n = n := rfl
@[simp] theorem realOps_zero : realOps.ofNat 0 = 0 := Nat.cast_zero
@[simp] theorem realOps_one : realOps.ofNat 1 = 1 := Nat.cast_one
@[simp] theorem realOps_two : realOps.ofNat 2 = 2 := Nat.cast_ofNat

end Qrlew
