import QrlewModel.Model.Tau
import Mathlib.Data.Real.Basic
/-!
# C04 — grouping keys are released only if public or above the τ threshold

* `limit_ok`: whatever the random draw (ties allowed), a unit keeps at most `K` groups — so the sensitivity
  of the distinct-unit counts is what `τ` was computed for;
* `tau_ge_one` / `singleton_not_deterministic`: with a non-negative quantile factor the threshold is at
  least 1, hence a key held by one unit is never released when the drawn noise is non-positive.
-/
namespace Qrlew.C04
open Qrlew.Tau

theorem exists_min (l : List Int) (h : l ≠ []) : ∃ m ∈ l, ∀ x ∈ l, m ≤ x := by
  cases hm : l.min? with
  | none => exact absurd (List.min?_eq_none_iff.mp hm) h
  | some m => exact ⟨m, List.min?_eq_some_iff.mp hm⟩

/-- **A unit keeps at most `K` groups**, for every assignment of random ranks (any number of groups, ties allowed). -/
theorem limit_ok (k : Nat) (l : List Int) : (kept k l).length ≤ k := by
  by_cases h : kept k l = []
  · rw [h]; exact Nat.zero_le _
  · obtain ⟨m, hm, hmin⟩ := exists_min (kept k l) h
    -- every kept rank is ≥ m, so the kept rows are among the rows counted by `cnt l m`, and m is kept
    have hmk : cnt l m ≤ k := of_decide_eq_true (List.mem_filter.mp hm).2
    have hsub : (kept k l).length ≤ cnt l m := by
      unfold kept cnt
      rw [← List.countP_eq_length_filter, ← List.countP_eq_length_filter]
      exact List.countP_mono_left fun x hx hkx => decide_eq_true (hmin x (List.mem_filter.mpr ⟨hx, hkx⟩))
    exact Nat.le_trans hsub hmk

/-- τ = 1 + σ·q with σ ≥ 0 (noise scale) and q ≥ 0 (the normal quantile of a probability ≥ 1/2) is at least 1 -/
theorem tau_ge_one (sigma q : ℝ) (hs : 0 ≤ sigma) (hq : 0 ≤ q) : 1 ≤ 1 + sigma * q :=
  le_add_of_nonneg_right (mul_nonneg hs hq)

/-- **A key held by a single privacy unit is never released deterministically**: with count 1 and a
non-positive noise draw the strict filter `count + noise > τ` fails as soon as τ ≥ 1. -/
theorem singleton_not_deterministic (noise tau : ℝ) (hn : noise ≤ 0) (ht : 1 ≤ tau) : ¬ ((1 : ℝ) + noise > tau) :=
  not_lt.mpr ((add_le_of_nonpos_right hn).trans ht)

/-- keys with public values: which keys are released does not depend on the data at all (only the aggregates beside them do) -/
theorem public_keys_independent_of_data {κ ν : Type} (vals : List κ) (agg agg' : κ → Option ν) :
    (Tau.releasePublic vals agg).map (·.1) = (Tau.releasePublic vals agg').map (·.1) ∧ (Tau.releasePublic vals agg).map (·.1) = vals := by
  simp [Tau.releasePublic, List.map_map, Function.comp_def]

/-- a key column computed by grouping the protected rows does depend on them: removing the only row of a key removes the key -/
theorem keys_from_data_depend_on_data :
    Tau.releaseFromData [("a", 1), ("c", 5)] ≠ Tau.releaseFromData ([("a", 1)] : List (String × Nat)) := by decide

/-- integer form used by the executable model: released keys have count + noise > τ -/
theorem released_iff (count noise tau : Int) : released count noise tau = true ↔ count + noise > tau :=
  decide_eq_true_iff

/-- Non-vacuity: 5 groups with ties, K = 2: only the top ranks survive. -/
example : kept 2 [5, 1, 5, 3, 9] = [9] ∧ kept 3 [5, 1, 5, 3, 9] = [5, 5, 9] := by decide

end Qrlew.C04
