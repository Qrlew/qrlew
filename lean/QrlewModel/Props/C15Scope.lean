import QrlewModel.Props.C15
/-!
# C15 — scopes: the bindings a query adds shadow the ones of its context

`hextend base ctes` is the model of how `VisitedQueryRelations::new` builds the relations visible to a query: the context's tables,
extended with the query's CTEs / named sub-queries (compared with `Hierarchy::extend` / `Hierarchy::with` by the `hierops` stream).
For every context, every list of new bindings and every name: a new binding named exactly `p` is what `p` denotes afterwards —
whatever tables of the context carry the same path or a longer path ending in `p` — and a name none of the new bindings is
compatible with keeps its meaning.
-/
namespace Qrlew.C15
open Qrlew

variable {α β : Type} [DecidableEq α]

theorem keys_hinsert (m : List (List α × β)) (k : List α) (v : β) :
    (hinsert m k v).map (·.1) = if m.any (fun e => e.1 == k) then m.map (·.1) else m.map (·.1) ++ [k] := by
  unfold hinsert
  split
  · rw [List.map_map]
    apply List.map_congr_left
    intro e _
    by_cases h : e.1 = k <;> simp [h]
  · simp

theorem hinsert_keysNodup (m : List (List α × β)) (k : List α) (v : β) (hk : KeysNodup m) : KeysNodup (hinsert m k v) := by
  unfold KeysNodup at *
  rw [keys_hinsert]
  split
  · exact hk
  · next h =>
    -- the key is appended only if no entry has it
    refine List.nodup_append.mpr ⟨hk, List.pairwise_singleton _ k, fun a ha b hb hab => h ?_⟩
    obtain ⟨e, he, rfl⟩ := List.mem_map.mp ha
    exact List.any_eq_true.mpr ⟨e, he, beq_iff_eq.mpr (hab.trans (List.mem_singleton.mp hb))⟩

theorem hextend_keysNodup (m n : List (List α × β)) (hk : KeysNodup m) : KeysNodup (hextend m n) := by
  unfold hextend
  induction n generalizing m with
  | nil => exact hk
  | cons e rest ih => exact ih _ (hinsert_keysNodup m e.1 e.2 hk)

theorem mem_hinsert_self (m : List (List α × β)) (k : List α) (v : β) : (k, v) ∈ hinsert m k v := by
  unfold hinsert
  split
  · rename_i h
    obtain ⟨e, he, hek⟩ := List.any_eq_true.mp h
    exact List.mem_map.mpr ⟨e, he, by simp [hek]⟩
  · simp

theorem mem_hinsert_other (m : List (List α × β)) (k p : List α) (v w : β) (hne : k ≠ p) (h : (p, w) ∈ m) :
    (p, w) ∈ hinsert m k v := by
  unfold hinsert
  split
  · exact List.mem_map.mpr ⟨(p, w), h, by simp [Ne.symm hne]⟩
  · exact List.mem_append_left _ h

/-- a binding that no later binding of the list overrides is present after the extension -/
theorem mem_hextend (m n : List (List α × β)) (p : List α) (v : β) (hn : KeysNodup n) (h : (p, v) ∈ n) :
    (p, v) ∈ hextend m n := by
  -- the invariant of the fold: the binding is still to come, or it is in place and nothing to come has its name
  suffices inv : ∀ (n m : List (List α × β)), KeysNodup n → ((p, v) ∈ n ∨ ((p, v) ∈ m ∧ ∀ e ∈ n, e.1 ≠ p)) →
      (p, v) ∈ n.foldl (fun acc e => hinsert acc e.1 e.2) m from inv n m hn (Or.inl h)
  intro n
  induction n with
  | nil => exact fun m _ h => h.elim (fun h => nomatch h) (·.1)
  | cons e rest ih =>
    intro m hn h
    rw [KeysNodup, List.map_cons, List.nodup_cons] at hn
    refine ih _ hn.2 ?_
    rcases h with h | ⟨hm, hne⟩
    · rcases List.mem_cons.mp h with rfl | h
      · exact Or.inr ⟨mem_hinsert_self m p v, fun e he heq => hn.1 (List.mem_map.mpr ⟨e, he, heq⟩)⟩
      · exact Or.inl h
    · exact Or.inr ⟨mem_hinsert_other m e.1 p e.2 v (hne e List.mem_cons_self) hm,
        fun e' he' => hne e' (List.mem_cons_of_mem _ he')⟩

/-- **Shadowing**: a new binding named exactly `p` is what `p` denotes in the extended scope. -/
theorem lookup_hextend_shadow (m n : List (List α × β)) (p : List α) (v : β) (hm : KeysNodup m) (hn : KeysNodup n)
    (h : (p, v) ∈ n) : lookup (hextend m n) p = some (p, v) :=
  lookup_exact _ p v (hextend_keysNodup m n hm) (mem_hextend m n p v hn h)

theorem zip_self_eq (l : List α) : ∀ ab ∈ l.zip l, ab.1 = ab.2 := by
  induction l with
  | nil => simp
  | cons a t ih =>
    intro ab hab
    simp only [List.zip_cons_cons, List.mem_cons] at hab
    rcases hab with rfl | h
    · rfl
    · exact ih ab h

theorem compat_self (p : List α) : compat p p = true := by
  unfold compat
  apply List.all_eq_true.mpr
  intro ab hab
  simp [zip_self_eq _ ab hab]

/-- lookups only see the entries compatible with the path -/
theorem lookup_filter_compat (m : List (List α × β)) (p : List α) :
    lookup (m.filter fun e => compat p e.1) p = lookup m p := by
  unfold lookup
  -- an exact key is compatible with itself, so the filter does not hide it
  have hfind : (m.filter fun e => compat p e.1).find? (fun e => e.1 == p) = m.find? (fun e => e.1 == p) := by
    rw [List.find?_filter]
    congr 1; funext a
    by_cases h : a.1 = p <;> simp [h, compat_self]
  rw [hfind]
  cases m.find? (fun e => e.1 == p) with
  | some e => rfl
  | none =>
    simp only []
    rw [fold_eq_filter, fold_eq_filter, List.filter_filter]
    simp

theorem filter_compat_replace (m : List (List α × β)) (k p : List α) (v : β) (hc : compat p k = false) :
    (m.map fun e => if e.1 == k then (k, v) else e).filter (fun e => compat p e.1) = m.filter (fun e => compat p e.1) := by
  induction m with
  | nil => rfl
  | cons a t ih =>
    by_cases ha : a.1 = k
    · -- the entry has key `k` before and after: dropped both times
      simp only [List.map_cons, ha, beq_self_eq_true, if_true, List.filter_cons, hc, Bool.false_eq_true, if_false]
      exact ih
    · have hb : (a.1 == k) = false := by simpa using ha
      simp only [List.map_cons, hb, Bool.false_eq_true, if_false, List.filter_cons]
      rw [ih]

theorem filter_compat_hinsert (m : List (List α × β)) (k p : List α) (v : β) (hc : compat p k = false) :
    (hinsert m k v).filter (fun e => compat p e.1) = m.filter (fun e => compat p e.1) := by
  unfold hinsert
  split
  · exact filter_compat_replace m k p v hc
  · simp [List.filter_append, hc]

/-- **Nothing else moves**: a name with which none of the new bindings is compatible denotes what it denoted in the context. -/
theorem lookup_hextend_untouched (m n : List (List α × β)) (p : List α) (hn : ∀ e ∈ n, compat p e.1 = false) :
    lookup (hextend m n) p = lookup m p := by
  rw [← lookup_filter_compat (hextend m n), ← lookup_filter_compat m]
  congr 1
  unfold hextend
  induction n generalizing m with
  | nil => rfl
  | cons e rest ih =>
    simp only [List.foldl]
    rw [ih _ (fun e he => hn e (List.mem_cons_of_mem _ he)), filter_compat_hinsert m e.1 p e.2 (hn e (by simp))]

/-! ## `filter` and `prepend` (what a qualified wildcard / a schema prefix uses) keep keys distinct and exact names stable -/

theorem hfilter_keysNodup (m : List (List α × β)) (p : List α) (hk : KeysNodup m) : KeysNodup (hfilter m p) := by
  unfold KeysNodup hfilter at *
  exact List.Nodup.sublist (List.Sublist.map _ List.filter_sublist) hk

theorem hprepend_keysNodup (m : List (List α × β)) (h : List α) (hk : KeysNodup m) : KeysNodup (hprepend m h) := by
  have keys : (hprepend m h).map (·.1) = (m.map (·.1)).map (h ++ ·) := by rw [hprepend, List.map_map, List.map_map]; rfl
  rw [KeysNodup, keys]
  exact List.Pairwise.map _ (fun a b hab hc => hab (List.append_cancel_left hc)) hk

/-- a binding kept by `filter` is still what its exact name denotes -/
theorem lookup_hfilter_exact (m : List (List α × β)) (p k : List α) (v : β) (hk : KeysNodup m) (h : (k, v) ∈ m)
    (hp : prefixCompat p k = true) : lookup (hfilter m p) k = some (k, v) :=
  lookup_exact (hfilter m p) k v (hfilter_keysNodup m p hk) (by unfold hfilter; exact List.mem_filter.mpr ⟨h, hp⟩)

/-- after `prepend h`, the full path `h ++ k` denotes the binding `k` denoted -/
theorem lookup_hprepend_exact (m : List (List α × β)) (h k : List α) (v : β) (hk : KeysNodup m) (hm : (k, v) ∈ m) :
    lookup (hprepend m h) (h ++ k) = some (h ++ k, v) :=
  lookup_exact (hprepend m h) (h ++ k) v (hprepend_keysNodup m h hk)
    (by unfold hprepend; exact List.mem_map.mpr ⟨(k, v), hm, rfl⟩)

/-- non-vacuity: the context has the table `t`, and `s.t`; the query defines a CTE `t` -/
example :
    let base : List (List String × Nat) := [(["t"], 1), (["s", "t"], 2), (["u"], 3)]
    let ctes : List (List String × Nat) := [(["t"], 10)]
    lookup (hextend base ctes) ["t"] = some (["t"], 10) ∧ lookup (hextend base ctes) ["u"] = some (["u"], 3) ∧
      lookup (hextend base ctes) ["s", "t"] = some (["s", "t"], 2) := by decide +kernel

/-- non-vacuity for `filter` / `prepend`: `s.t` survives the filter on `s` (and `t`, `u` do not); after prepending `db` the full path resolves -/
example :
    let base : List (List String × Nat) := [(["t"], 1), (["s", "t"], 2), (["u"], 3)]
    hfilter base ["s"] = [(["s", "t"], 2)] ∧ lookup (hfilter base ["s"]) ["s", "t"] = some (["s", "t"], 2) ∧
      lookup (hprepend base ["db"]) ["db", "u"] = some (["db", "u"], 3) := by decide +kernel

end Qrlew.C15
