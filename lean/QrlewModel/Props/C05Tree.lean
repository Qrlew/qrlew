import QrlewModel.Props.C05
import QrlewModel.Model.PupTree
import QrlewModel.Lemmas.Lists
/-!
# C05 — non-interference of privacy-unit tracking for whole operator trees

`Qrlew.PupTree.eval` is the model of the privacy-unit-preserving rewriting (strategy Hard) for trees of maps, filters, joins of
tracked relations, inner / left joins with a public relation, `UNION [ALL]` and reduces; the `pup` stream runs it against the real
rewriting executed on SQLite.  Theorem `restrict_eval`: for every tree (any shape and depth), every database and every unit `u`,
the rows the rewriting attributes to `u` are exactly the rows obtained from the database in which all protected rows of the other
units are deleted — a tracked row depends on its own unit's data (and on public data) only.
-/
namespace Qrlew.C05
open Qrlew.Pup Qrlew.PupTree

variable {U α β γ : Type} [DecidableEq U]

/-! ### two more operator lemmas: de-duplication (`dedup` is `List.eraseDups`) and the commuting form for reduce -/

theorem dedup_eq_eraseDups [DecidableEq α] : ∀ l : List α, dedup l = l.eraseDups
  | [] => rfl
  | a :: t => by rw [dedup, dedup_eq_eraseDups t, Lists.filter_eraseDups, List.eraseDups_cons]

theorem mem_of_mem_dedup [DecidableEq α] (x : α) : ∀ l : List α, x ∈ dedup l → x ∈ l :=
  fun l h => List.mem_eraseDups.mp (dedup_eq_eraseDups l ▸ h)

theorem filter_dedup [DecidableEq α] (p : α → Bool) : ∀ l : List α, (dedup l).filter p = dedup (l.filter p) :=
  fun l => by rw [dedup_eq_eraseDups, dedup_eq_eraseDups, Lists.filter_eraseDups]

/-- de-duplication commutes with a map that is injective on the list -/
theorem dedup_map [DecidableEq α] [DecidableEq β] (f : α → β) (l : List α) (hf : ∀ x ∈ l, ∀ y ∈ l, f x = f y → x = y) :
    (dedup l).map f = dedup (l.map f) := by
  rw [dedup_eq_eraseDups, dedup_eq_eraseDups, Lists.map_eraseDups f l hf]

theorem restrict_dedup [DecidableEq α] (u : U) (R : List (U × α)) : restrict u (dedup R) = dedup (restrict u R) :=
  filter_dedup _ R

theorem filter_eraseDups_aux [BEq α] [LawfulBEq α] (p : α → Bool) :
    ∀ (n : Nat) (l : List α), l.length ≤ n → l.eraseDups.filter p = (l.filter p).eraseDups :=
  fun _ l _ => Lists.filter_eraseDups p l

theorem filter_eraseDups [BEq α] [LawfulBEq α] (p : α → Bool) (l : List α) : l.eraseDups.filter p = (l.filter p).eraseDups :=
  Lists.filter_eraseDups p l

/-- per-unit reduce, commuting form: the unit's groups and aggregates are those of the unit's rows -/
theorem restrict_preduce_comm [DecidableEq γ] (u : U) (key : α → γ) (agg : List α → β) (R : List (U × α)) :
    restrict u (preduce key agg R) = preduce key agg (restrict u R) := by
  simp only [restrict, preduce, List.filter_map]
  have hg : ((R.filter fun r => r.1 == u).map fun r => (r.1, key r.2)).eraseDups =
      ((R.map fun r => (r.1, key r.2)).eraseDups.filter fun g => g.1 == u) := by
    rw [filter_eraseDups, List.filter_map]
    rfl
  rw [hg]
  refine List.map_congr_left fun g hg' => ?_
  -- a group of unit `u` is made of rows of unit `u`
  obtain rfl : g.1 = u := beq_iff_eq.mp (List.mem_filter.mp hg').2
  rw [Lists.filter_filter_of_imp fun r _ h => (Bool.and_eq_true _ _ ▸ h).1]

/-! ### every tree -/

/-- **C05 for every tree of tracked operators**: restricting the output to a unit is evaluating the tree on the database
restricted to that unit (public tables untouched). -/
theorem restrict_eval (u : Nat) (env : Env) (t : T) :
    restrict u (eval env t) = eval (env.restrict u) t := by
  induction t with
  | table i => rfl
  | map c0 k0 c1 k1 t ih => unfold eval; rw [restrict_pmap, ih]
  | filter c k t ih => unfold eval; rw [restrict_pfilter, ih]
  | join p q i j l r ihl ihr => unfold eval; rw [restrict_pmap, restrict_joinTracked, ihl, ihr]
  | joinPub p i left l ih =>
    cases left with
    | false => unfold eval; rw [restrict_pmap, restrict_joinPublished, ih]; rfl
    | true => unfold eval; rw [restrict_pmap, restrict_leftJoinPublished, ih]; rfl
  | union all l r ihl ihr =>
    cases all with
    | true => unfold eval; rw [restrict_punion, ihl, ihr]
    | false => unfold eval; rw [restrict_dedup, restrict_punion, ihl, ihr]
  | reduce key agg count t ih => unfold eval; rw [restrict_pmap, restrict_preduce_comm, ih]

/-- consequence: two databases that agree on unit `u`'s protected rows and on the public table give `u` the same output rows -/
theorem eval_depends_on_own_unit (u : Nat) (e1 e2 : Env) (t : T)
    (hT : ∀ i, restrict u (e1.tracked i) = restrict u (e2.tracked i)) (hP : e1.pub = e2.pub) :
    restrict u (eval e1 t) = restrict u (eval e2 t) := by
  rw [restrict_eval, restrict_eval]
  have : e1.restrict u = e2.restrict u := by
    simp only [Env.restrict, hP]
    congr 1
    funext i; exact hT i
  rw [this]

/-- non-vacuity: a reduce over a join of two tracked tables in which two units share join keys and group keys -/
example :
    let env : Env := { tracked := fun i => if i = 0 then [(1, (1, [some 0, some 5])), (2, (1, [some 0, some 7]))]
                                            else [(1, (1, [some 0, some 1])), (2, (1, [some 0, none]))], pub := [] }
    restrict 1 (eval env (.reduce 0 1 false (.join 0 0 0 1 (.table 0) (.table 1)))) = [(1, (1, [some 0, some 1]))] := by
  decide

end Qrlew.C05
