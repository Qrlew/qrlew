import QrlewModel.Lemmas.Intervals
import QrlewModel.Lemmas.IntervalsExact
/-!
# C11 — data-type lattice operations soundly over-approximate set operations

Property theorems only (helper lemmas live in `Lemmas/`).  Part 1: interval sets
(`src/data_type/intervals.rs`).  Every theorem is for all interval lists, all bounds, any
capacity `cap ≥ 2` (the code uses 128) and any operation history.
-/
namespace Qrlew.C11
open Qrlew

/-- Well-formed operation (what the Rust API accepts without panicking: `assert!(min <= max)`,
operands that are themselves `Intervals` values). -/
def OpOk (cap : Nat) : IvOp → Prop
  | .unionI lo hi => lo ≤ hi
  | .interI lo hi => lo ≤ hi
  | .unionS s => Good cap s
  | .interS s => Good cap s
  | .hullOp => True

/-- Exact set semantics of one operation on the denoted set. -/
def semStep (S : Int → Prop) : IvOp → Int → Prop
  | .unionI lo hi => fun x => S x ∨ (lo ≤ x ∧ x ≤ hi)
  | .interI lo hi => fun x => S x ∧ (lo ≤ x ∧ x ≤ hi)
  | .unionS s => fun x => S x ∨ Mem x s
  | .interS s => fun x => S x ∧ Mem x s
  | .hullOp => S

def sem (S : Int → Prop) (ops : List IvOp) : Int → Prop := ops.foldl semStep S

/-- Interval sets stay sorted, disjoint and within capacity after one operation,
and the operation never loses a point of the exact result. -/
theorem step_sound (cap : Nat) (hc : 2 ≤ cap) (l : Ivs) (op : IvOp) (S : Int → Prop)
    (hg : Good cap l) (hop : OpOk cap op) (hS : ∀ x, S x → Mem x l) :
    Good cap (stepIv cap l op) ∧ ∀ x, semStep S op x → Mem x (stepIv cap l op) := by
  cases op with
  | unionI lo hi =>
    exact ⟨unionInterval_good hc hg.1 hop, fun x hx => mem_unionInterval cap l lo hi x hg.1 hop (hx.imp_left (hS x))⟩
  | interI lo hi =>
    exact ⟨interInterval_good hc hg.1 hop, fun x hx => mem_interInterval hg.1 (hS x hx.1) hx.2⟩
  | unionS s => exact ⟨union_good hc hg hop, fun x hx => mem_union hc hg hop (hx.imp_left (hS x))⟩
  | interS s => exact ⟨inter_good hc hg hop, fun x hx => mem_inter hc hg hop (hS x hx.1) hx.2⟩
  | hullOp =>
    exact ⟨simplify_good hc (hull_wf hg.1), fun x hx => mem_simplify (hull_wf hg.1) (mem_hull hg.1 (hS x hx))⟩

/-- **Any history** of unions / intersections / simplifications, including ones that cross the
capacity: the representation invariant holds at the end and no point of the exact result is lost. -/
theorem run_sound (cap : Nat) (hc : 2 ≤ cap) (ops : List IvOp) (l : Ivs) (S : Int → Prop)
    (hg : Good cap l) (hops : ∀ op ∈ ops, OpOk cap op) (hS : ∀ x, S x → Mem x l) :
    Good cap (runIv cap l ops) ∧ ∀ x, sem S ops x → Mem x (runIv cap l ops) := by
  induction ops generalizing l S with
  | nil => exact ⟨hg, hS⟩
  | cons op rest ih =>
    have h1 := step_sound cap hc l op S hg (hops op List.mem_cons_self) hS
    exact ih (stepIv cap l op) (semStep S op) h1.1
      (fun o ho => hops o (List.mem_cons_of_mem _ ho)) h1.2

/-- The approximate union contains every value of both operands. -/
theorem union_superset (cap : Nat) (hc : 2 ≤ cap) (l r : Ivs) (hl : Good cap l) (hr : Good cap r) (x : Int) :
    Mem x l ∨ Mem x r → Mem x (union cap l r) := mem_union hc hl hr

/-- The approximate intersection contains every value that is in both operands. -/
theorem inter_superset (cap : Nat) (hc : 2 ≤ cap) (l r : Ivs) (hl : Good cap l) (hr : Good cap r) (x : Int) :
    Mem x l → Mem x r → Mem x (inter cap l r) := mem_inter hc hl hr

/-- No gratuitous loss of precision: below capacity, `union_interval` is exact (on any list, sorted or not: `h` and `hlh`
are not needed). -/
theorem unionInterval_exact (cap : Nat) (l : Ivs) (lo hi x : Int) (h : WF l) (hlh : lo ≤ hi)
    (hlen : l.length + 1 < cap) :
    Mem x (unionInterval cap l lo hi) ↔ Mem x l ∨ (lo ≤ x ∧ x ≤ hi) :=
  mem_unionInterval_iff x hlen

/-- … and so is `intersection_interval` (its result is never longer than its input). -/
theorem interInterval_exact (cap : Nat) (l : Ivs) (lo hi x : Int) (h : Good cap l) :
    Mem x (interInterval cap l lo hi) ↔ Mem x l ∧ (lo ≤ x ∧ x ≤ hi) :=
  mem_interInterval_iff x h

/-- `is_subset_of` never answers yes wrongly — proved here while the crude size bound `|l|·|r| < capacity` rules out any
collapse to the hull inside `intersection` (beyond that bound the subset test is covered by the `intervals` stream only:
the full statement is `isSubsetOf cap l r = true → ∀ x, Mem x l → Mem x r` for all `Good` operands). -/
theorem isSubsetOf_sound_partial (cap : Nat) (hc : 2 ≤ cap) (l r : Ivs) (hl : Good cap l) (hr : Good cap r)
    (hlen : l.length * r.length < cap) (h : isSubsetOf cap l r = true) (x : Int) (hx : Mem x l) : Mem x r := by
  have heq : inter cap l r = l := eq_of_beq h
  rw [← heq] at hx
  exact ((inter_exact hc hl hr hlen x).mp hx).2

/-- … and below that bound it answers yes exactly when the denotations are included and the intersection is written as `l` -/
theorem inter_exact_below_capacity (cap : Nat) (hc : 2 ≤ cap) (l r : Ivs) (hl : Good cap l) (hr : Good cap r)
    (hlen : l.length * r.length < cap) (x : Int) : Mem x (inter cap l r) ↔ Mem x l ∧ Mem x r :=
  inter_exact hc hl hr hlen x

/-- the union is exact (not merely a superset) while `|l| + |r|` stays below the capacity (`hl` and `hr` are not needed) -/
theorem union_exact_below_capacity (cap : Nat) (hc : 2 ≤ cap) (l r : Ivs) (hl : Good cap l) (hr : Good cap r)
    (hlen : l.length + r.length < cap) (x : Int) : Mem x (union cap l r) ↔ Mem x l ∨ Mem x r :=
  (union_exact hc hlen x).1

/-- **Lattice laws, as sets, below the capacity regime**: union and intersection denote the same sets whichever operand comes
first (the code folds the shorter operand into the longer one, so the two calls run different loops), and they absorb each
other: `l ∩ (l ∪ r) = l = l ∪ (l ∩ r)` as sets.  Beyond the bounds only the superset theorems above hold — by design, the
collapse to the hull loses exactness, never soundness. -/
theorem union_comm_sem (cap : Nat) (hc : 2 ≤ cap) (l r : Ivs) (hl : Good cap l) (hr : Good cap r)
    (hlen : l.length + r.length < cap) (x : Int) : Mem x (union cap l r) ↔ Mem x (union cap r l) := by
  rw [union_exact_below_capacity cap hc l r hl hr hlen, union_exact_below_capacity cap hc r l hr hl (by omega)]
  exact Or.comm

theorem inter_comm_sem (cap : Nat) (hc : 2 ≤ cap) (l r : Ivs) (hl : Good cap l) (hr : Good cap r)
    (hlen : l.length * r.length < cap) (x : Int) : Mem x (inter cap l r) ↔ Mem x (inter cap r l) := by
  rw [inter_exact hc hl hr hlen, inter_exact hc hr hl (Nat.mul_comm .. ▸ hlen)]
  exact And.comm

theorem inter_union_absorb (cap : Nat) (hc : 2 ≤ cap) (l r : Ivs) (hl : Good cap l) (hr : Good cap r)
    (hlen : l.length * (l.length + r.length) < cap) (hlen2 : l.length + r.length < cap) (x : Int) :
    Mem x (inter cap l (union cap l r)) ↔ Mem x l := by
  have hu := union_exact hc hlen2 x
  rw [inter_exact hc hl (union_good hc hl hr) (Nat.lt_of_le_of_lt (Nat.mul_le_mul_left _ hu.2) hlen), hu.1]
  exact ⟨fun h => h.1, fun h => ⟨h, Or.inl h⟩⟩

theorem union_idem_sem (cap : Nat) (hc : 2 ≤ cap) (l : Ivs) (hl : Good cap l) (hlen : l.length + l.length < cap) (x : Int) :
    Mem x (union cap l l) ↔ Mem x l := by
  rw [union_exact_below_capacity cap hc l l hl hl hlen]; exact or_self_iff

theorem inter_idem_sem (cap : Nat) (hc : 2 ≤ cap) (l : Ivs) (hl : Good cap l) (hlen : l.length * l.length < cap) (x : Int) :
    Mem x (inter cap l l) ↔ Mem x l := by
  rw [inter_exact hc hl hl hlen]; exact and_self_iff

/-- Non-vacuity of the partial statement, and a yes / no pair. -/
example : Good 128 [(0, 1), (5, 9)] ∧ Good 128 [(0, 3), (4, 20)] ∧ isSubsetOf 128 [(0, 1), (5, 9)] [(0, 3), (4, 20)] = true ∧
    isSubsetOf 128 [(0, 3), (4, 20)] [(0, 1), (5, 9)] = false := by
  refine ⟨⟨⟨by decide, by decide, by decide, trivial⟩, by decide⟩, ⟨⟨by decide, by decide, by decide, trivial⟩, by decide⟩,
    by decide +kernel, by decide +kernel⟩

/-- Non-vacuity: a concrete non-trivial state satisfies the hypotheses and crosses a merge. -/
example : Good 128 [(0, 1), (5, 9)] ∧ OpOk 128 (.unionI 1 5) ∧
    runIv 128 [(0, 1), (5, 9)] [.unionI 1 5, .interI 3 20] = [(3, 9)] := by
  refine ⟨⟨⟨by decide, by decide, by decide, trivial⟩, by decide⟩, (by decide : (1 : Int) ≤ 5), by decide +kernel⟩

/-- Non-vacuity at the capacity: with `cap = 3` the third interval forces the collapse to the hull. -/
example : runIv 3 [] [.unionI 0 0, .unionI 2 2, .unionI 4 4] = [(0, 4)] := by decide +kernel

end Qrlew.C11
