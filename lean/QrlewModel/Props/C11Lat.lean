import QrlewModel.Props.C11
import QrlewModel.Model.DTLat
import QrlewModel.Lemmas.Option
/-!
# C11 — the lattice operations on composite types (the fragment compared by the `dtlat` stream)

Types: integer interval sets, nullable integers, two-field structs and sized lists, nested at will; values accordingly.
`DTLat.subset / union / inter` are compared with `DataType::is_subset_of / super_union / super_intersection` line by line.
For every pair of types of the fragment (any nesting depth):

* `type_subset_sound`: `A ⊆ B` reported ⇒ every value of `A` is a value of `B` (interval sets below the capacity regime, as for the
  scalar statement `isSubsetOf_sound_partial`);
* `type_union_superset`: the union contains every value of either operand;
* `type_inter_superset`: the intersection contains every value that is in both.
-/
namespace Qrlew.C11
open Qrlew Qrlew.DTLat

inductive V where
  | i (n : Int)
  | none
  | some (v : V)
  | pair (a b : V)
  | list (vs : List V)

/-- membership; a plain integer is also a value of the nullable type (the embedding the library's own conversions use) -/
def mem : DT → V → Prop
  | .int s, v => ∃ n, v = .i n ∧ Mem n s
  | .opt s, v => v = .none ∨ ∃ n, (v = .some (.i n) ∨ v = .i n) ∧ Mem n s
  | .pair a b, v => ∃ x y, v = .pair x y ∧ mem a x ∧ mem b y
  | .list t sz, v => ∃ vs, v = .list vs ∧ (∀ x ∈ vs, mem t x) ∧ Mem (vs.length : Int) sz

/-- every interval set in the type is well-formed, within capacity and has at most `k` intervals -/
def WFT (cap k : Nat) : DT → Prop
  | .int s => Good cap s ∧ s.length ≤ k
  | .opt s => Good cap s ∧ s.length ≤ k
  | .pair a b => WFT cap k a ∧ WFT cap k b
  | .list t sz => WFT cap k t ∧ Good cap sz ∧ sz.length ≤ k

theorem leaf_subset (cap k : Nat) (hc : 2 ≤ cap) (hk : k * k < cap) (a b : Ivs) (ha : Good cap a ∧ a.length ≤ k) (hb : Good cap b ∧ b.length ≤ k)
    (h : isSubsetOf cap a b = true) (n : Int) (hn : Mem n a) : Mem n b :=
  isSubsetOf_sound_partial cap hc a b ha.1 hb.1 (Nat.lt_of_le_of_lt (Nat.mul_le_mul ha.2 hb.2) hk) h n hn

/-! ### every constructor is monotone: inclusions of the parts lift to values

(a plain integer is also a value of the nullable type, so there is a lemma for `int ⊆ opt` and none for `opt ⊆ int`) -/

section constructors
variable {s t u : Ivs} {a b c d : DT}

theorem mem_int_int (h : ∀ n, Mem n s → Mem n t) (v : V) : mem (.int s) v → mem (.int t) v :=
  Exists.imp fun n => And.imp_right (h n)

theorem mem_int_opt (h : ∀ n, Mem n s → Mem n t) (v : V) : mem (.int s) v → mem (.opt t) v :=
  fun ⟨n, e, hn⟩ => Or.inr ⟨n, Or.inr e, h n hn⟩

theorem mem_opt_opt (h : ∀ n, Mem n s → Mem n t) (v : V) : mem (.opt s) v → mem (.opt t) v :=
  Or.imp_right (Exists.imp fun n => And.imp_right (h n))

theorem mem_pair_pair (ha : ∀ x, mem a x → mem c x) (hb : ∀ y, mem b y → mem d y) (v : V) :
    mem (.pair a b) v → mem (.pair c d) v :=
  Exists.imp fun x => Exists.imp fun y => And.imp_right (And.imp (ha x) (hb y))

theorem mem_list_list (ha : ∀ x, mem a x → mem c x) (h : ∀ n, Mem n s → Mem n t) (v : V) :
    mem (.list a s) v → mem (.list c t) v :=
  Exists.imp fun _ => And.imp_right (And.imp (fun hall x hx => ha x (hall x hx)) (h _))

/-! … and so for a value that lies in two types at once -/

theorem mem_int_inter_opt (h : ∀ n, Mem n s → Mem n t → Mem n u) (v : V) : mem (.int s) v → mem (.opt t) v → mem (.int u) v := by
  rintro ⟨n, rfl, hn⟩ (e | ⟨m, e | e, hm⟩) <;> cases e
  exact ⟨n, rfl, h n hn hm⟩

theorem mem_int_inter_int (h : ∀ n, Mem n s → Mem n t → Mem n u) (v : V) : mem (.int s) v → mem (.int t) v → mem (.int u) v :=
  fun hs ht => mem_int_inter_opt h v hs (mem_int_opt (fun _ => id) v ht)

theorem mem_opt_inter_opt (h : ∀ n, Mem n s → Mem n t → Mem n u) (v : V) : mem (.opt s) v → mem (.opt t) v → mem (.opt u) v := by
  rintro (rfl | ⟨n, e, hn⟩) hb
  · exact Or.inl rfl
  · rcases hb with rfl | ⟨m, e', hm⟩
    · rcases e with e | e <;> cases e
    · refine Or.inr ⟨n, e, h n hn ?_⟩
      rcases e with rfl | rfl <;> rcases e' with e' | e' <;> cases e' <;> exact hm

end constructors

/-- **`A ⊆ B` and `v ∈ A` give `v ∈ B`**, for every pair of types of the fragment. -/
theorem type_subset_sound (cap k : Nat) (hc : 2 ≤ cap) (hk : k * k < cap) :
    ∀ (A B : DT), WFT cap k A → WFT cap k B → subset cap A B = true → ∀ v, mem A v → mem B v := by
  intro A B
  fun_induction subset cap A B with
  | case1 a b => exact fun wa wb h => mem_int_int (leaf_subset cap k hc hk a b wa wb h)
  | case2 a b => exact fun wa wb h => mem_int_opt (leaf_subset cap k hc hk a b wa wb h)
  | case3 a b => exact fun wa wb h => mem_opt_opt (leaf_subset cap k hc hk a b wa wb h)
  | case4 a b c d ih1 ih2 =>
    intro wa wb h
    rw [Bool.and_eq_true] at h
    exact mem_pair_pair (ih1 wa.1 wb.1 h.1) (ih2 wa.2 wb.2 h.2)
  | case5 t s t' s' ih =>
    intro wa wb h
    rw [Bool.and_eq_true] at h
    exact mem_list_list (ih wa.1 wb.1 h.1) (leaf_subset cap k hc hk s s' wa.2 wb.2 h.2)
  | case6 => exact fun _ _ h => nomatch h

/-- **The union contains both operands.** -/
theorem type_union_superset (cap k : Nat) (hc : 2 ≤ cap) :
    ∀ (A B U : DT), WFT cap k A → WFT cap k B → DTLat.union cap A B = some U → ∀ v, mem A v ∨ mem B v → mem U v := by
  -- the two inclusions are proved together, so that each constructor's monotonicity is used as it stands
  suffices both : ∀ A B U, WFT cap k A → WFT cap k B → DTLat.union cap A B = some U →
      (∀ v, mem A v → mem U v) ∧ ∀ v, mem B v → mem U v from
    fun A B U wa wb h v hv => hv.elim ((both A B U wa wb h).1 v) ((both A B U wa wb h).2 v)
  have leaf : ∀ {a b : Ivs}, Good cap a → Good cap b →
      (∀ n, Mem n a → Mem n (Qrlew.union cap a b)) ∧ ∀ n, Mem n b → Mem n (Qrlew.union cap a b) := fun ha hb =>
    ⟨fun _ hn => mem_union hc ha hb (Or.inl hn), fun _ hn => mem_union hc ha hb (Or.inr hn)⟩
  intro A B
  fun_induction DTLat.union cap A B with
  | case1 a b => rintro U wa wb ⟨⟩; exact (leaf wa.1 wb.1).imp mem_int_int mem_int_int
  | case2 a b => rintro U wa wb ⟨⟩; exact (leaf wa.1 wb.1).imp mem_int_opt mem_opt_opt
  | case3 a b => rintro U wa wb ⟨⟩; exact (leaf wa.1 wb.1).imp mem_opt_opt mem_int_opt
  | case4 a b => rintro U wa wb ⟨⟩; exact (leaf wa.1 wb.1).imp mem_opt_opt mem_opt_opt
  | case5 a b c d ih1 ih2 =>
    intro U wa wb h
    obtain ⟨u1, u2, h1, h2, rfl⟩ := bind₂_pure_eq_some.1 h
    obtain ⟨l1, r1⟩ := ih1 u1 wa.1 wb.1 h1
    obtain ⟨l2, r2⟩ := ih2 u2 wa.2 wb.2 h2
    exact ⟨mem_pair_pair l1 l2, mem_pair_pair r1 r2⟩
  | case6 t s t' s' ih =>
    intro U wa wb h
    obtain ⟨u1, h1, rfl⟩ := bind_pure_eq_some.1 h
    obtain ⟨l, r⟩ := ih u1 wa.1 wb.1 h1
    obtain ⟨ls, rs⟩ := leaf wa.2.1 wb.2.1
    exact ⟨mem_list_list l ls, mem_list_list r rs⟩
  | case7 => exact fun _ _ _ h => nomatch h

/-- **The intersection contains every value that is in both operands.** -/
theorem type_inter_superset (cap k : Nat) (hc : 2 ≤ cap) :
    ∀ (A B N : DT), WFT cap k A → WFT cap k B → DTLat.inter cap A B = some N → ∀ v, mem A v → mem B v → mem N v := by
  intro A B
  fun_induction DTLat.inter cap A B with
  | case1 a b => rintro N wa wb ⟨⟩; exact mem_int_inter_int fun _ => mem_inter hc wa.1 wb.1
  | case2 a b => rintro N wa wb ⟨⟩; exact mem_int_inter_opt fun _ => mem_inter hc wa.1 wb.1
  | case3 a b => rintro N wa wb ⟨⟩ v ha hb; exact mem_int_inter_opt (fun _ hb ha => mem_inter hc wa.1 wb.1 ha hb) v hb ha
  | case4 a b => rintro N wa wb ⟨⟩; exact mem_opt_inter_opt fun _ => mem_inter hc wa.1 wb.1
  | case5 a b c d ih1 ih2 =>
    rintro N wa wb h v ⟨x, y, rfl, hx, hy⟩ ⟨x', y', e, hx', hy'⟩
    obtain ⟨n1, n2, h1, h2, rfl⟩ := bind₂_pure_eq_some.1 h
    cases e
    exact ⟨x, y, rfl, ih1 n1 wa.1 wb.1 h1 x hx hx', ih2 n2 wa.2 wb.2 h2 y hy hy'⟩
  | case6 t s t' s' ih =>
    rintro N wa wb h v ⟨vs, rfl, hall, hlen⟩ ⟨vs', e, hall', hlen'⟩
    obtain ⟨n1, h1, rfl⟩ := bind_pure_eq_some.1 h
    cases e
    exact ⟨vs, rfl, fun x hx => ih n1 wa.1 wb.1 h1 x (hall x hx) (hall' x hx), mem_inter hc wa.2.1 wb.2.1 hlen hlen'⟩
  | case7 => exact fun _ _ _ h => nomatch h

/-! ## The `none` branch of the model is exactly "shapes differ"

`DTLat.union` / `DTLat.inter` return `none` where the model does not cover the pair.  The theorems above would hold for the wrong
reason if that branch were taken on pairs of the fragment; `union_isSome` / `inter_isSome` show it is taken exactly when the two
types differ in shape (leaf optionality ignored), and `type_union_total` / `type_inter_total` restate the two superset theorems
without the `= some _` hypothesis. -/

/-- same constructor skeleton, nullable and plain integer leaves identified -/
def sameShape : DT → DT → Bool
  | .int _, .int _ | .int _, .opt _ | .opt _, .int _ | .opt _, .opt _ => true
  | .pair a b, .pair c d => sameShape a c && sameShape b d
  | .list t _, .list u _ => sameShape t u
  | _, _ => false

/- `sameShape`, `DTLat.union` and `DTLat.inter` list the same pairs of shapes in the same order, so where `sameShape`'s recursion
finds that none of them applies it holds just the hypotheses that the last equation of the other function asks for. -/

theorem union_isSome (cap : Nat) : ∀ (A B : DT), (DTLat.union cap A B).isSome = sameShape A B := by
  intro A B
  fun_induction sameShape A B with
  | case1 | case2 | case3 | case4 => rfl
  | case5 a b c d ih1 ih2 => rw [← ih1, ← ih2]; exact isSome_bind₂_pure
  | case6 t _ u _ ih => rw [← ih]; exact isSome_bind_pure
  | case7 A B h1 h2 h3 h4 h5 h6 => rw [DTLat.union.eq_7 cap A B h1 h2 h3 h4 h5 h6]; rfl

theorem inter_isSome (cap : Nat) : ∀ (A B : DT), (DTLat.inter cap A B).isSome = sameShape A B := by
  intro A B
  fun_induction sameShape A B with
  | case1 | case2 | case3 | case4 => rfl
  | case5 a b c d ih1 ih2 => rw [← ih1, ← ih2]; exact isSome_bind₂_pure
  | case6 t _ u _ ih => rw [← ih]; exact isSome_bind_pure
  | case7 A B h1 h2 h3 h4 h5 h6 => rw [DTLat.inter.eq_7 cap A B h1 h2 h3 h4 h5 h6]; rfl

/-- a reported inclusion only ever relates types of the same shape -/
theorem subset_sameShape (cap : Nat) : ∀ (A B : DT), subset cap A B = true → sameShape A B = true := by
  intro A B
  fun_induction subset cap A B with
  | case1 | case2 | case3 => exact fun _ => rfl
  | case4 a b c d ih1 ih2 => rw [sameShape, Bool.and_eq_true, Bool.and_eq_true]; exact And.imp ih1 ih2
  | case5 t s t' s' ih => rw [sameShape, Bool.and_eq_true]; exact fun h => ih h.1
  | case6 => exact nofun

/-- **Union, total form**: on every pair of same-shaped types of the fragment the union exists and contains both operands. -/
theorem type_union_total (cap k : Nat) (hc : 2 ≤ cap) (A B : DT) (wa : WFT cap k A) (wb : WFT cap k B) (hs : sameShape A B = true) :
    ∃ U, DTLat.union cap A B = some U ∧ ∀ v, mem A v ∨ mem B v → mem U v := by
  obtain ⟨U, hU⟩ := Option.isSome_iff_exists.mp (union_isSome cap A B ▸ hs)
  exact ⟨U, hU, type_union_superset cap k hc A B U wa wb hU⟩

/-- **Intersection, total form.** -/
theorem type_inter_total (cap k : Nat) (hc : 2 ≤ cap) (A B : DT) (wa : WFT cap k A) (wb : WFT cap k B) (hs : sameShape A B = true) :
    ∃ N, DTLat.inter cap A B = some N ∧ ∀ v, mem A v → mem B v → mem N v := by
  obtain ⟨N, hN⟩ := Option.isSome_iff_exists.mp (inter_isSome cap A B ▸ hs)
  exact ⟨N, hN, type_inter_superset cap k hc A B N wa wb hN⟩

/-- **Lattice coherence on the fragment**: whenever `A ⊆ B` is reported, both the union and the intersection of the pair exist,
the union still contains every value of `B` and the intersection every value of `A` (no value is lost by going through the
join or the meet of a comparable pair). -/
theorem subset_union_inter (cap k : Nat) (hc : 2 ≤ cap) (hk : k * k < cap) (A B : DT) (wa : WFT cap k A) (wb : WFT cap k B)
    (h : subset cap A B = true) :
    ∃ U N, DTLat.union cap A B = some U ∧ DTLat.inter cap A B = some N ∧ (∀ v, mem B v → mem U v) ∧ (∀ v, mem A v → mem N v) := by
  have hs := subset_sameShape cap A B h
  obtain ⟨U, hU, hu⟩ := type_union_total cap k hc A B wa wb hs
  obtain ⟨N, hN, hn⟩ := type_inter_total cap k hc A B wa wb hs
  exact ⟨U, N, hU, hN, fun v hv => hu v (Or.inr hv), fun v hv => hn v hv (type_subset_sound cap k hc hk A B wa wb h v hv)⟩

/-- non-vacuity: a struct of a nullable integer and a list, a wider one, and a value of the first -/
example :
    let A : DT := .pair (.opt [(1, 3)]) (.list (.int [(0, 5)]) [(1, 2)])
    let B : DT := .pair (.opt [(0, 4)]) (.list (.int [(0, 9)]) [(0, 2)])
    WFT 128 3 A ∧ WFT 128 3 B ∧ subset 128 A B = true ∧ subset 128 B A = false ∧
      mem A (.pair .none (.list [.i 4, .i 0])) ∧ DTLat.union 128 A B = some B ∧ DTLat.inter 128 A B = some A := by
  -- every interval set of `A` and `B` is one non-empty interval
  have leaf : ∀ a b : Int, a ≤ b → Good 128 [(a, b)] ∧ [(a, b)].length ≤ 3 := fun _ _ h => ⟨Good.single (by decide) h, (by decide : 1 ≤ 3)⟩
  exact ⟨⟨leaf 1 3 (by decide), leaf 0 5 (by decide), leaf 1 2 (by decide)⟩,
    ⟨leaf 0 4 (by decide), leaf 0 9 (by decide), leaf 0 2 (by decide)⟩, by decide +kernel, by decide +kernel,
    ⟨.none, .list [.i 4, .i 0], rfl, Or.inl rfl, [.i 4, .i 0], rfl,
      List.forall_mem_cons.2 ⟨⟨4, rfl, by decide⟩, List.forall_mem_cons.2 ⟨⟨0, rfl, by decide⟩, nofun⟩⟩, by decide⟩,
    by decide +kernel, by decide +kernel⟩

end Qrlew.C11
