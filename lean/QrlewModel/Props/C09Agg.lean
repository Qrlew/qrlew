import QrlewModel.Props.C09
import QrlewModel.Model.DpAgg
import Mathlib.Algebra.Order.BigOperators.Group.List
import Mathlib.Tactic.Positivity
/-!
# C09 — the whole DP aggregation pipeline is exact when noise and clipping are inactive

`Qrlew.DpAgg.release` is the model of `PupRelation::differentially_private_aggregates` with the noise draws at 0 (it is run
against the real rewriting by the `dpagg` stream).  Here: for any table (any number of rows, units and groups, NULLs allowed)
whose values are within the declared bound `A` and in which no privacy unit owns more than `m` rows, and any clipping
constants at least `m`, `A·m`, `A²·m` (what the code derives from the declared range and the multiplicity), the released
table is the true count / sum / mean / variance / standard deviation of every group.
-/
namespace Qrlew.C09
open Qrlew Qrlew.Clip Qrlew.C01 Qrlew.DpAgg

/-- the non-NULL values of group `j` -/
def xs (rows : List (Row ℝ)) (j : Nat) : List ℝ := (rows.filter fun r => r.2.1 == j).filterMap (·.2.2)

theorem cell_real (f : Row ℝ → ℝ) (rows : List (Row ℝ)) (u j : Nat) :
    cell realOps f rows u j = ((rows.filter fun r => r.1 == u && r.2.1 == j).map f).sum := by
  unfold cell; rw [vsum_real]

/-- a sum over the kept elements, one element at a time -/
theorem sum_filter_cons {α : Type} (p : α → Bool) (f : α → ℝ) (r : α) (t : List α) :
    (((r :: t).filter p).map f).sum = (if p r then f r else 0) + ((t.filter p).map f).sum := by
  rw [List.filter_cons]
  split
  · rw [List.map_cons, List.sum_cons]
  · rw [zero_add]

theorem cell_cons (f : Row ℝ → ℝ) (r : Row ℝ) (rows : List (Row ℝ)) (u j : Nat) :
    cell realOps f (r :: rows) u j = (if r.1 = u ∧ r.2.1 = j then f r else 0) + cell realOps f rows u j := by
  simp only [cell_real, sum_filter_cons, Bool.and_eq_true, beq_iff_eq]

theorem sum_range_ite (n a : Nat) (x : ℝ) :
    ((List.range n).map fun u => if a = u then x else 0).sum = if a < n then x else 0 := by
  induction n with
  | zero => rfl
  | succ k ih =>
    rw [List.range_succ, List.map_append, List.sum_append, ih, List.map_singleton, List.sum_singleton]
    rcases Nat.lt_trichotomy a k with h | rfl | h
    · rw [if_pos h, if_neg h.ne, if_pos (Nat.lt_succ_of_lt h), add_zero]
    · rw [if_neg (Nat.lt_irrefl a), if_pos rfl, if_pos (Nat.lt_succ_self a), zero_add]
    · rw [if_neg (Nat.lt_asymm h), if_neg h.ne', if_neg (Nat.not_lt.mpr h), add_zero]

/-- **Summing a filtered sum over a range of keys**: the rows whose key is `0`, `1`, …, `n − 1`, one key at a time, are the rows
whose key is below `n`.  Both per-unit and per-group bookkeeping of the pipeline are instances (`sum_cells`, `sum_groups_le`). -/
theorem sum_range_filter {α : Type} (f : α → ℝ) (key : α → ℕ) (n : ℕ) (l : List α) :
    ((List.range n).map fun k => ((l.filter fun r => key r == k).map f).sum).sum =
      ((l.filter fun r => decide (key r < n)).map f).sum := by
  induction l with
  | nil => simp
  | cons r t ih =>
    simp only [sum_filter_cons, beq_iff_eq, decide_eq_true_eq]
    rw [List.sum_map_add, sum_range_ite, ih]

/-- adding the cells of all units gives the plain per-group sum -/
theorem sum_cells (f : Row ℝ → ℝ) (nU : Nat) (rows : List (Row ℝ)) (hU : ∀ r ∈ rows, r.1 < nU) (j : Nat) :
    ((List.range nU).map fun u => cell realOps f rows u j).sum = ((rows.filter fun r => r.2.1 == j).map f).sum := by
  simp only [cell_real, ← List.filter_filter]
  rw [sum_range_filter f (·.1) nU, List.filter_eq_self.mpr]
  exact fun r hr => decide_eq_true (hU r (List.mem_filter.mp hr).1)

/-- adding the units' vectors up gives, per group, the sum of the units' cells -/
theorem foldr_unitVec (g : Nat) (f : Row ℝ → ℝ) (rows : List (Row ℝ)) (us : List Nat) :
    (us.map (unitVec realOps g f rows)).foldr (vadd realOps) (List.replicate g 0) =
      (List.range g).map fun j => (us.map fun u => cell realOps f rows u j).sum := by
  induction us with
  | nil => simp only [List.map_nil, List.foldr_nil, List.sum_nil, List.map_const', List.length_range]
  | cons u t ih =>
    simp only [List.map_cons, List.foldr_cons, ih, unitVec, vadd_real, List.zipWith_map, List.zipWith_self, List.sum_cons]

/-! ### clipping is inactive when no unit owns more than `m` rows -/

theorem sum_sq_le_sq_sum_abs (v : List ℝ) : (v.map fun x => x * x).sum ≤ ((v.map fun x => |x|).sum) ^ 2 := by
  induction v with
  | nil => simp
  | cons a t ih =>
    have hT : 0 ≤ (t.map fun x => |x|).sum := List.sum_nonneg (List.forall_mem_map.mpr fun x _ => abs_nonneg x)
    -- `(|a| + T)² = a² + 2|a|T + T²`, and the middle term is not negative
    rw [List.map_cons, List.sum_cons, List.map_cons, List.sum_cons, add_sq, sq_abs, ← sq]
    exact add_le_add (le_add_of_nonneg_right (mul_nonneg (mul_nonneg two_pos.le (abs_nonneg a)) hT)) ih

theorem abs_cell_le (f : Row ℝ → ℝ) (rows : List (Row ℝ)) (u j : Nat) :
    |cell realOps f rows u j| ≤ cell realOps (fun r => |f r|) rows u j := by
  rw [cell_real, cell_real]
  generalize (rows.filter fun r => r.1 == u && r.2.1 == j) = l
  induction l with
  | nil => simp
  | cons a t ih => simp only [List.map_cons, List.sum_cons]; exact (abs_add_le _ _).trans (add_le_add le_rfl ih)

/-- the cells of one unit over the groups add up to at most the unit's total -/
theorem sum_groups_le (f : Row ℝ → ℝ) (hf : ∀ r, 0 ≤ f r) (g : Nat) (rows : List (Row ℝ)) (u : Nat) :
    ((List.range g).map fun j => cell realOps f rows u j).sum ≤ ((rows.filter fun r => r.1 == u).map f).sum := by
  have e : ∀ j, cell realOps f rows u j = (((rows.filter fun r => r.1 == u).filter fun r => r.2.1 == j).map f).sum := fun j => by
    rw [cell_real, List.filter_filter]; simp only [Bool.and_comm]
  simp only [e]
  rw [sum_range_filter f (·.2.1) g]
  exact (List.filter_sublist.map f).sum_le_sum (List.forall_mem_map.mpr fun r _ => hf r)

/-- **No clipping**: a unit that owns at most `m` rows, each with `|f| ≤ B`, has a vector of L2 norm at most `B·m`. -/
theorem unitVec_normSq_le (g : Nat) (f : Row ℝ → ℝ) (rows : List (Row ℝ)) (u : Nat) (B : ℝ) (m : Nat)
    (hB : ∀ r ∈ rows, |f r| ≤ B) (hM : (rows.filter fun r => r.1 == u).length ≤ m) (hB0 : 0 ≤ B) :
    normSq realOps (unitVec realOps g f rows u) ≤ (B * m) * (B * m) := by
  have h0 : 0 ≤ ((unitVec realOps g f rows u).map fun x => |x|).sum :=
    List.sum_nonneg (List.forall_mem_map.mpr fun x _ => abs_nonneg x)
  -- L2 ≤ L1, and the L1 norm is at most the sum of `|f|` over the unit's rows: at most `m` terms, each at most `B`
  have h1 : ((unitVec realOps g f rows u).map fun x => |x|).sum ≤ B * m := by
    rw [unitVec, List.map_map]
    refine (List.sum_le_sum fun j _ => abs_cell_le f rows u j).trans
      ((sum_groups_le (fun r => |f r|) (fun r => abs_nonneg _) g rows u).trans ?_)
    refine (List.sum_le_card_nsmul _ B (List.forall_mem_map.mpr fun r hr => hB r (List.mem_of_mem_filter hr))).trans ?_
    rw [List.length_map, nsmul_eq_mul, mul_comm]
    exact mul_le_mul_of_nonneg_left (Nat.cast_le.mpr hM) hB0
  rw [normSq_real, ← sq]
  exact (sum_sq_le_sq_sum_abs _).trans (pow_le_pow_left₀ h0 h1 2)

/-- … so the clipped sums of a derived column are its plain per-group sums -/
theorem clippedSums_exact (nU g : Nat) (f : Row ℝ → ℝ) (c B : ℝ) (m : Nat) (rows : List (Row ℝ))
    (hU : ∀ r ∈ rows, r.1 < nU) (hB : ∀ r ∈ rows, |f r| ≤ B) (hB0 : 0 ≤ B)
    (hM : ∀ u, (rows.filter fun r => r.1 == u).length ≤ m) (hc : 0 < c) (hcB : B * m ≤ c) :
    clippedSums realOps rz nU g f c rows = (List.range g).map fun j => ((rows.filter fun r => r.2.1 == j).map f).sum := by
  rw [clippedSums, total_exact g c hc, foldr_unitVec]
  · exact List.map_congr_left fun j _ => sum_cells f nU rows hU j
  · exact List.forall_mem_map.mpr fun u _ => (unitVec_normSq_le g f rows u B m hB (hM u) hB0).trans
      (mul_self_le_mul_self (mul_nonneg hB0 (Nat.cast_nonneg m)) hcB)

/-! ### the three derived columns and the recombination -/

@[simp] theorem one_none (u j : Nat) : one realOps ((u, j, none) : Row ℝ) = 0 := Nat.cast_zero
@[simp] theorem one_some (u j : Nat) (v : ℝ) : one realOps ((u, j, some v) : Row ℝ) = 1 := Nat.cast_one
@[simp] theorem val_none (u j : Nat) : val realOps ((u, j, none) : Row ℝ) = 0 := Nat.cast_zero
@[simp] theorem val_some (u j : Nat) (v : ℝ) : val realOps ((u, j, some v) : Row ℝ) = v := rfl
@[simp] theorem sqr_none (u j : Nat) : sqr realOps ((u, j, none) : Row ℝ) = 0 := Nat.cast_zero
@[simp] theorem sqr_some (u j : Nat) (v : ℝ) : sqr realOps ((u, j, some v) : Row ℝ) = v * v := rfl

/-- The three derived columns have one shape: `0` on NULL, some `φ v` on the value `v`.  Summing such a column is summing `φ`
over the non-NULL values … -/
theorem sum_column (c : Row ℝ → ℝ) (φ : ℝ → ℝ) (h0 : ∀ u j, c (u, j, none) = 0) (h1 : ∀ u j v, c (u, j, some v) = φ v)
    (l : List (Row ℝ)) : (l.map c).sum = ((l.filterMap (·.2.2)).map φ).sum := by
  induction l with
  | nil => rfl
  | cons r t ih =>
    obtain ⟨u, j, _ | v⟩ := r
    · rw [List.map_cons, List.sum_cons, h0, zero_add, ih]; rfl
    · rw [List.map_cons, List.sum_cons, h1, ih]; rfl

/-- … and it is bounded by `B` as soon as `φ` is on the values present -/
theorem abs_column_le (c : Row ℝ → ℝ) (φ : ℝ → ℝ) (h0 : ∀ u j, c (u, j, none) = 0) (h1 : ∀ u j v, c (u, j, some v) = φ v)
    {B : ℝ} (hB : 0 ≤ B) (rows : List (Row ℝ)) (hφ : ∀ r ∈ rows, ∀ v, r.2.2 = some v → |φ v| ≤ B) :
    ∀ r ∈ rows, |c r| ≤ B := by
  rintro ⟨u, j, _ | v⟩ hr
  · rwa [h0, abs_zero]
  · rw [h1]; exact hφ _ hr v rfl

theorem sum_one (l : List (Row ℝ)) : (l.map (one realOps)).sum = ((l.filterMap (·.2.2)).length : ℝ) := by
  rw [sum_column _ (fun _ => 1) one_none one_some, List.map_const', List.sum_replicate, nsmul_eq_mul, mul_one]

theorem sum_val (l : List (Row ℝ)) : (l.map (val realOps)).sum = (l.filterMap (·.2.2)).sum := by
  rw [sum_column _ id val_none val_some, List.map_id]

theorem sum_sqr (l : List (Row ℝ)) : (l.map (sqr realOps)).sum = ((l.filterMap (·.2.2)).map fun x => x * x).sum :=
  sum_column _ _ sqr_none sqr_some l

theorem zip3_map (n : Nat) (a b c : Nat → ℝ) :
    zip3 realOps ((List.range' 0 n).map a) ((List.range' 0 n).map b) ((List.range' 0 n).map c) =
      (List.range' 0 n).map fun j => recombine realOps (a j) (b j) (c j) := by
  generalize 0 = s
  induction n generalizing s with
  | zero => rfl
  | succ k ih => simp only [List.range'_succ, List.map_cons, zip3, ih]

/-- the true statistics of a non-empty list of values -/
noncomputable def trueStats (l : List ℝ) : Out ℝ :=
  let mean : ℝ := l.sum / (l.length : ℝ)
  let var : ℝ := (l.map fun x => (x - mean) ^ 2).sum / (l.length : ℝ)
  { count := (l.length : ℝ), sum := l.sum, mean := mean, var := var, std := Real.sqrt var }

/-- `recombine` over ℝ, written out -/
theorem recombine_real (cnt s ss : ℝ) : recombine realOps cnt s ss =
    { count := cnt, sum := s, mean := s / max 1 cnt, var := max 0 (ss / max 1 cnt - s / max 1 cnt * (s / max 1 cnt)),
      std := Real.sqrt (max 0 (ss / max 1 cnt - s / max 1 cnt * (s / max 1 cnt))) } := by
  simp only [recombine, realOps_zero, realOps_one, realOps_max, realOps_div, realOps_sub, realOps_mul, realOps_sqrt]

/-- recombining the exact count, sum and sum of squares gives the true mean, variance and standard deviation -/
theorem recombine_exact (l : List ℝ) (hne : l ≠ []) :
    recombine realOps (l.length : ℝ) l.sum (l.map fun x => x * x).sum = trueStats l := by
  have h1 : (1 : ℝ) ≤ l.length := Nat.one_le_cast.mpr (List.length_pos_iff.mpr hne)
  have hv : (0 : ℝ) ≤ (l.map fun x => (x - l.sum / l.length) ^ 2).sum / l.length :=
    div_nonneg (List.sum_nonneg (List.forall_mem_map.mpr fun x _ => sq_nonneg _)) (Nat.cast_nonneg _)
  -- `greatest(1, count)` is the count, `greatest(0, E[x²] − E[x]²)` is the variance, which is not negative
  rw [recombine_real, max_eq_right h1, ← sq, var_exact l hne, max_eq_right hv]; rfl

/-- an empty group is released as count 0, sum 0, mean 0, variance 0 -/
theorem recombine_empty : recombine realOps (0 : ℝ) 0 0 = { count := 0, sum := 0, mean := 0, var := 0, std := 0 } := by
  simp [recombine_real]

/-- **C09, whole pipeline.**  Values within `[-A, A]`, at most `m` rows per privacy unit, clipping constants at least
`m`, `A·m` and `A²·m`: the released table holds, for every group, the statistics of the group's non-NULL values. -/
theorem release_exact (nU g : Nat) (A : ℝ) (m : Nat) (cOne cVal cSq : ℝ) (rows : List (Row ℝ))
    (hU : ∀ r ∈ rows, r.1 < nU) (hA : ∀ r ∈ rows, ∀ v, r.2.2 = some v → |v| ≤ A) (hA0 : 0 ≤ A)
    (hM : ∀ u, (rows.filter fun r => r.1 == u).length ≤ m)
    (h1 : 0 < cOne) (h2 : 0 < cVal) (h3 : 0 < cSq) (hOne : (m : ℝ) ≤ cOne) (hVal : A * m ≤ cVal) (hSq : A * A * m ≤ cSq) :
    release realOps rz nU g cOne cVal cSq rows =
      (List.range g).map fun j =>
        recombine realOps ((xs rows j).length : ℝ) (xs rows j).sum ((xs rows j).map fun x => x * x).sum := by
  have hA2 : 0 ≤ A * A := mul_nonneg hA0 hA0
  rw [release,
    clippedSums_exact nU g (one realOps) cOne 1 m rows hU
      (abs_column_le _ (fun _ => 1) one_none one_some zero_le_one rows fun _ _ _ _ => abs_one.le) zero_le_one hM h1
      (by rwa [one_mul]),
    clippedSums_exact nU g (val realOps) cVal A m rows hU (abs_column_le _ id val_none val_some hA0 rows hA) hA0 hM h2 hVal,
    clippedSums_exact nU g (sqr realOps) cSq (A * A) m rows hU
      (abs_column_le _ _ sqr_none sqr_some hA2 rows fun r hr v hv => by
        rw [abs_mul]; exact mul_le_mul (hA r hr v hv) (hA r hr v hv) (abs_nonneg v) hA0) hA2 hM h3 hSq]
  simp only [sum_one, sum_val, sum_sqr, List.range_eq_range']
  exact zip3_map g _ _ _

/-- … that is, for a group that has a non-NULL value, its true count, sum, mean, variance and standard deviation -/
theorem release_true_stats (nU g : Nat) (A : ℝ) (m : Nat) (cOne cVal cSq : ℝ) (rows : List (Row ℝ))
    (hU : ∀ r ∈ rows, r.1 < nU) (hA : ∀ r ∈ rows, ∀ v, r.2.2 = some v → |v| ≤ A) (hA0 : 0 ≤ A)
    (hM : ∀ u, (rows.filter fun r => r.1 == u).length ≤ m)
    (h1 : 0 < cOne) (h2 : 0 < cVal) (h3 : 0 < cSq) (hOne : (m : ℝ) ≤ cOne) (hVal : A * m ≤ cVal) (hSq : A * A * m ≤ cSq)
    (j : Nat) (hj : j < g) (hne : xs rows j ≠ []) :
    (release realOps rz nU g cOne cVal cSq rows)[j]? = some (trueStats (xs rows j)) := by
  rw [release_exact nU g A m cOne cVal cSq rows hU hA hA0 hM h1 h2 h3 hOne hVal hSq, List.getElem?_map,
    List.getElem?_range hj, Option.map_some, recombine_exact _ hne]

/-- the hypotheses are satisfiable by a table with two units, two groups, a NULL and a unit owning two rows -/
example : let rows : List (Row ℝ) := [(0, 0, some 3), (0, 1, some (-4)), (1, 0, none), (1, 0, some 2)]
    (∀ r ∈ rows, r.1 < 2) ∧ (∀ r ∈ rows, ∀ v, r.2.2 = some v → |v| ≤ 4) ∧
    (∀ u, (rows.filter fun r => r.1 == u).length ≤ 2) ∧ xs rows 0 ≠ [] := by
  refine ⟨by decide, ?_, ?_, by decide⟩
  · intro r hr v hv
    simp only [List.mem_cons, List.not_mem_nil, or_false] at hr
    rcases hr with rfl | rfl | rfl | rfl <;> simp at hv <;> subst hv <;> norm_num [abs_le]
  · -- units 0 and 1 own two rows each, any other unit none
    rintro (_ | _ | u)
    · decide
    · decide
    · exact Nat.zero_le 2

/-- **clipping matters**: with the multiplicity exceeded the released count is *not* the true count (a unit owning three rows,
multiplicity constant 1: the unit is scaled down to 1) — the hypothesis on the multiplicity cannot be dropped -/
theorem count_clipped_counterexample :
    clippedSums realOps rz 1 1 (one realOps) 1 [(0, 0, some 1), (0, 0, some 1), (0, 0, some 1)] = [1] := by
  have hv : unitVec realOps 1 (one realOps) [(0, 0, some 1), (0, 0, some 1), (0, 0, some 1)] 0 = [3] := by
    norm_num [unitVec, cell_real, List.range_succ]
  have hs : Real.sqrt (3 * 3) = 3 := Real.sqrt_mul_self (by norm_num)
  simp only [clippedSums, List.range_succ, List.range_zero, List.nil_append, List.map_cons, List.map_nil, hv, total, scaled,
    scale_real, normSq_real, List.sum_cons, List.sum_nil, add_zero, hs, vadd_real, List.replicate]
  norm_num

end Qrlew.C09
