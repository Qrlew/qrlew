import QrlewModel.Model.Namer
import QrlewModel.Generated.NamerSites
/-!
# C16 — generated names: content-derived names do not depend on history, counter-derived names do

* `content_only_history_independent`: a computation that only asks for content-derived names gets the same
  names from every counter state, after any earlier calls, and leaves the counter untouched.
* `counter_numbers_increasing` / `counter_name_changes`: every number the counter hands out for a key is larger
  than all earlier ones — so anything named from the counter is different on the second compilation.
* `compile_path_counter_sites`: in the generated inventory of /repo's naming call sites, the counter-based ones in the
  modules the SQL reader and the renderer run through are exactly the audited ones.
* `encode_length`, `encode_mod`: the 4-digit base-37 code depends on the hash modulo 37^4 only.
-/
namespace Qrlew.C16
open Qrlew.Namer

theorem step_content (c : Counter) (op : Op) (h : op.isContent = true) :
    (step c op).1 = c ∧ ∀ c', (step c' op).2 = (step c op).2 := by
  cases op <;> simp [Op.isContent] at h <;> simp [step]

theorem content_only_history_independent (ops : List Op) (h : ∀ op ∈ ops, op.isContent = true) :
    ∀ c c', (run c ops).2 = (run c' ops).2 ∧ (run c ops).1 = c := by
  induction ops with
  | nil => intro c c'; simp [run]
  | cons op ops ih =>
    intro c c'
    have hop := h op List.mem_cons_self
    have ⟨h1, h2⟩ := step_content c op hop
    have ⟨h1', _⟩ := step_content c' op hop
    have ih' := ih (fun o ho => h o (List.mem_cons_of_mem _ ho))
    simp only [run]
    rw [h1, h1', h2 c']
    exact ⟨by rw [(ih' c c').1], (ih' c c).2⟩

theorem lookup_put_same (c : Counter) (k : String) (n : Nat) : lookup (put c k n) k = some n := by
  induction c with
  | nil => simp [put, lookup]
  | cons kv rest ih =>
    obtain ⟨k', m⟩ := kv
    by_cases hk : k' = k <;> simp [put, lookup, hk, ih]

theorem lookup_put_other (c : Counter) (k k' : String) (n : Nat) (hne : k' ≠ k) : lookup (put c k n) k' = lookup c k' := by
  induction c with
  | nil => simp [put, lookup, Ne.symm hne]
  | cons kv rest ih =>
    obtain ⟨k'', m⟩ := kv
    by_cases hk : k'' = k
    · subst hk; simp [put, lookup, Ne.symm hne]
    · by_cases hk2 : k'' = k'
      · subst hk2; simp [put, lookup, hk]
      · simp [put, lookup, hk, hk2, ih]

theorem next_after_count_same (c : Counter) (k : String) : next (count c k).1 k = next c k + 1 := by
  simp [count, next, lookup_put_same]

theorem next_after_count_other (c : Counter) (k k' : String) (hne : k' ≠ k) : next (count c k).1 k' = next c k' := by
  simp [count, next, lookup_put_other _ _ _ _ hne]

/-- `new_name` and `new_id` draw from the same counter: what such a request contributes to the numbers handed out for `p` -/
theorem numbersFor_counted (p q : String) (ops : List Op) (c : Counter) (op : Op) (hop : op = .name q ∨ op = .id q) :
    numbersFor p (run c (op :: ops)).2 =
      (if q = p then [next c q] else []) ++ numbersFor p (run (count c q).1 ops).2 := by
  rcases hop with rfl | rfl <;> simp only [run, step, numbersFor, count] <;> split <;> rfl

/-- all numbers handed out for `p` during a run are at least the next free number, and strictly increasing -/
theorem counter_numbers_increasing (p : String) (ops : List Op) :
    ∀ c, (numbersFor p (run c ops).2).Pairwise (· < ·) ∧ ∀ n ∈ numbersFor p (run c ops).2, next c p ≤ n := by
  induction ops with
  | nil => exact fun c => ⟨List.Pairwise.nil, nofun⟩
  | cons op ops ih =>
    intro c
    have counted : ∀ q, op = .name q ∨ op = .id q →
        (numbersFor p (run c (op :: ops)).2).Pairwise (· < ·) ∧ ∀ n ∈ numbersFor p (run c (op :: ops)).2, next c p ≤ n := by
      intro q hop
      rw [numbersFor_counted p q ops c op hop]
      have ⟨ih1, ih2⟩ := ih (count c q).1
      split
      · -- a request for `p` itself: it gets `next c p`, everything later gets more
        subst q
        rw [next_after_count_same] at ih2
        refine ⟨List.pairwise_cons.2 ⟨fun n hn => ih2 n hn, ih1⟩, fun n hn => ?_⟩
        rcases List.mem_cons.mp hn with rfl | hn
        · exact Nat.le_refl _
        · exact Nat.le_of_succ_le (ih2 n hn)
      · rw [next_after_count_other _ _ _ (Ne.symm ‹_›)] at ih2
        exact ⟨ih1, ih2⟩
    cases op with
    | content q h => exact ih c
    | name q => exact counted q (Or.inl rfl)
    | id q => exact counted q (Or.inr rfl)

/-- the counter only moves forward -/
theorem next_le_run (p : String) (ops : List Op) : ∀ c, next c p ≤ next (run c ops).1 p := by
  induction ops with
  | nil => exact fun c => Nat.le_refl _
  | cons op ops ih =>
    intro c
    have counted : ∀ q, next c p ≤ next (run (count c q).1 ops).1 p := fun q => by
      refine Nat.le_trans ?_ (ih _)
      by_cases hq : q = p
      · rw [hq, next_after_count_same]; exact Nat.le_succ _
      · rw [next_after_count_other _ _ _ (Ne.symm hq)]; exact Nat.le_refl _
    cases op with
    | content q h => exact ih c
    | name q => exact counted q
    | id q => exact counted q

/-- the same request made twice, with anything in between, gets two different counter names -/
theorem counter_name_changes (p : String) (between : List Op) (c : Counter) :
    let outs := (run c (.name p :: between ++ [.name p])).2
    outs.head? ≠ outs.getLast? := by
  intro outs
  -- the last output carries the counter's value after everything before it
  have hrun : ∀ (ops : List Op) (c : Counter), (run c (ops ++ [.name p])).2.getLast? = some (.counted p (next (run c ops).1 p)) := by
    intro ops
    induction ops with
    | nil => exact fun c => rfl
    | cons o os ih => intro c; rw [List.cons_append, run, List.getLast?_cons, ih]; rfl
  have hhead : outs.head? = some (.counted p (next c p)) := rfl
  have hlast : outs.getLast? = some (.counted p (next (run (count c p).1 between).1 p)) := hrun (.name p :: between) c
  -- … which is beyond the first number
  have := next_le_run p between (count c p).1
  rw [next_after_count_same] at this
  rw [hhead, hlast]
  intro heq
  have := (Out.counted.inj (Option.some.inj heq)).2
  omega

theorem encode_length (a : List Char) (len x : Nat) : (encode a len x).length = len := by
  induction len generalizing x with
  | zero => simp [encode]
  | succ n ih => simp [encode, ih]

theorem encode_mod (a : List Char) (len x : Nat) (ha : 0 < a.length) :
    encode a len x = encode a len (x % a.length ^ len) := by
  induction len generalizing x with
  | zero => simp [encode]
  | succ n ih =>
    simp only [encode]
    have h1 : x % a.length ^ (n + 1) % a.length = x % a.length := by
      rw [Nat.pow_succ, Nat.mul_comm]; exact Nat.mod_mul_right_mod _ _ _
    have h2 : x % a.length ^ (n + 1) / a.length = (x / a.length) % a.length ^ n := by
      rw [Nat.pow_succ, Nat.mul_comm, Nat.mod_mul_right_div_self]
    rw [h1, h2, ← ih]

/-- conversely the code is injective on hashes below `|alphabet| ^ len` (distinct symbols): with `encode_mod`, two contents share a
name **exactly** when their hashes agree modulo `37⁴` — the collisions of `name_from_content` are those of the hash, never an
artefact of the encoder. -/
theorem encode_injective (a : List Char) (hn : a.Nodup) (ha : 0 < a.length) (len x y : Nat)
    (hx : x < a.length ^ len) (hy : y < a.length ^ len) (h : encode a len x = encode a len y) : x = y := by
  induction len generalizing x y with
  | zero => rw [Nat.pow_zero, Nat.lt_one_iff] at hx hy; rw [hx, hy]
  | succ n ih =>
    -- the first symbols give the remainders, the rest of the codes the quotients
    rw [encode, encode, List.cons.injEq] at h
    have lt : ∀ z, z < a.length ^ (n + 1) → z / a.length < a.length ^ n := fun z hz =>
      Nat.div_lt_of_lt_mul (by rwa [Nat.pow_succ, Nat.mul_comm] at hz)
    rw [← Nat.div_add_mod x a.length, ← Nat.div_add_mod y a.length, ih _ _ (lt x hx) (lt y hy) h.2,
      (List.getD_inj (Nat.mod_lt _ ha) (Nat.mod_lt _ ha) hn).mp h.1]

/-- two numbers get the same code exactly when they agree modulo `|alphabet| ^ len` -/
theorem encode_eq_iff (a : List Char) (hn : a.Nodup) (ha : 0 < a.length) (len x y : Nat) :
    encode a len x = encode a len y ↔ x % a.length ^ len = y % a.length ^ len := by
  rw [encode_mod a len x ha, encode_mod a len y ha]
  exact ⟨encode_injective a hn ha len _ _ (Nat.mod_lt _ (Nat.pow_pos ha)) (Nat.mod_lt _ (Nat.pow_pos ha)), fun h => by rw [h]⟩

/-- the alphabet symbol by symbol (a string literal is `String.ofList` of its characters, so nothing is evaluated) -/
theorem base37_eq : base37 = ['0', '1', '2', '3', '4', '5', '6', '7', '8', '9', 'a', 'b', 'c', 'd', 'e', 'f', 'g', 'h', 'i', 'j',
    'k', 'l', 'm', 'n', 'o', 'p', 'q', 'r', 's', 't', 'u', 'v', 'w', 'x', 'y', 'z', '_'] := String.toList_ofList

/-- the value of a base-37 digit -/
def digitVal (c : Char) : Nat := if c = '_' then 36 else if c.toNat < 58 then c.toNat - 48 else c.toNat - 87

/-- the symbols stand in the order of their values -/
theorem base37_digitVal : base37.map digitVal = List.range 37 := by rw [base37_eq]; decide +kernel

theorem base37_length : base37.length = 37 := by rw [base37_eq]; rfl

/-- distinct values, hence distinct symbols: 37 evaluations, where comparing the symbols pairwise takes 666 dearer ones -/
theorem base37_nodup : base37.Nodup :=
  List.Pairwise.of_map digitVal (fun _ _ h e => h (congrArg digitVal e)) (base37_digitVal ▸ List.nodup_range)

theorem content_code_eq_iff (h1 h2 : Nat) : encode base37 4 h1 = encode base37 4 h2 ↔ h1 % 37 ^ 4 = h2 % 37 ^ 4 := by
  have := encode_eq_iff base37 base37_nodup (by rw [base37_length]; decide) 4 h1 h2
  rwa [base37_length] at this

/-- two different hashes can share a code: names are not injective in the content -/
theorem code_collision : encode base37 4 0 = encode base37 4 (37 ^ 4) :=
  (content_code_eq_iff 0 (37 ^ 4)).mpr (by decide)

/-! ### Hash maps keyed by content: why `Hash` must agree with `Eq`

The visitors keep their state in a `HashMap<&Node, _>`; `DataType` derives a structural `Hash` but its `==` is mutual
inclusion.  A bucketed lookup (`bucketLookup`: only the keys whose hash equals the query's are compared) agrees with the
plain first-match lookup for every hash function that respects the equality — in particular it does not depend on the
per-map random seed — and it does depend on the seed as soon as two equal keys may hash differently. -/

def bucketLookup {κ ν : Type} (h : κ → Nat) (eq : κ → κ → Bool) (l : List (κ × ν)) (k : κ) : Option ν :=
  ((l.filter fun p => h p.1 == h k).find? fun p => eq p.1 k).map (·.2)

def linearLookup {κ ν : Type} (eq : κ → κ → Bool) (l : List (κ × ν)) (k : κ) : Option ν :=
  (l.find? fun p => eq p.1 k).map (·.2)

theorem lawful_hash_lookup {κ ν : Type} (h : κ → Nat) (eq : κ → κ → Bool) (hl : ∀ a b, eq a b = true → h a = h b)
    (l : List (κ × ν)) (k : κ) : bucketLookup h eq l k = linearLookup eq l k := by
  unfold bucketLookup linearLookup
  rw [List.find?_filter]
  congr 2; funext p
  rw [Bool.decide_and, Bool.decide_eq_true, Bool.decide_eq_true]
  -- a key equal to the query is in the query's bucket
  cases he : eq p.1 k
  · exact Bool.and_false _
  · rw [hl _ _ he, beq_self_eq_true]; rfl

/-- with a hash that respects equality, the answer does not depend on which such hash (which seed) the map uses -/
theorem lawful_hash_seed_independent {κ ν : Type} (h h' : κ → Nat) (eq : κ → κ → Bool)
    (hl : ∀ a b, eq a b = true → h a = h b) (hl' : ∀ a b, eq a b = true → h' a = h' b) (l : List (κ × ν)) (k : κ) :
    bucketLookup h eq l k = bucketLookup h' eq l k := by
  rw [lawful_hash_lookup h eq hl, lawful_hash_lookup h' eq hl']

/-- two keys that are equal (`1 ≃ 2`) but hash apart under one seed and together under another: the lookup differs -/
theorem hash_eq_mismatch_counterexample :
    bucketLookup (fun k : Nat => k) (fun a b => a / 3 == b / 3) [(1, "float{0, 1}")] 2 ≠
      bucketLookup (fun _ : Nat => 0) (fun a b => a / 3 == b / 3) [(1, "float{0, 1}")] 2 := by decide

open Qrlew.Generated

/-- modules the SQL reader, the relation builders and the renderer run through -/
def compileAreas : List String := ["sql", "relation", "expr", "dialect_translation", "data_type", "", "hierarchy"]

/-- counter-based sites reached only when a caller does not supply a name (the SQL reader always names the nodes it
builds from their content), or in the sampling / noise rewritings, which the property does not cover -/
def audited : List NameSite := [
  ⟨"data_type", "data_type/value.rs", "new_name", "", .counter⟩,          -- From<Value> for Union: an anonymous field
  ⟨"relation", "relation/builder.rs", "new_name", "table", .counter⟩,      -- TableBuilder without a name
  ⟨"relation", "relation/builder.rs", "new_name", "values", .counter⟩,     -- ValuesBuilder without a name
  ⟨"relation", "relation/field.rs", "new_name", "field", .counter⟩,        -- Field::from(DataType)
  ⟨"relation", "relation/mod.rs", "new_name", "table", .counter⟩,          -- Table::from_field
  ⟨"relation", "relation/rewriting.rs", "new_id", "POISSON_SAMPLING", .counter⟩,
  ⟨"relation", "relation/rewriting.rs", "new_id", "SAMPLING_WITHOUT_REPLACEMENT", .counter⟩,
  ⟨"expr", "expr/rewriting.rs", "new_id", "GAUSSIAN_NOISE", .counter⟩ ]

/-- the one counter-based site on the reader's path: `random()` / `rand()` takes its id from the counter (known finding) -/
def knownCounterOnPath : List NameSite := [⟨"sql", "sql/expr.rs", "new_id", "UNIFORM_SAMPLING", .counter⟩]

def counterOnCompilePath : List NameSite :=
  nameSites.filter fun s => compileAreas.contains s.area && s.kind == .counter

theorem compile_path_counter_sites : ∀ s ∈ counterOnCompilePath, s ∈ audited ∨ s ∈ knownCounterOnPath := by decide +kernel

/-- Non-vacuity: the inventory does contain content-based sites on the path, and the filter of the theorem is not empty. -/
example : (nameSites.filter fun s => compileAreas.contains s.area && s.kind == .content).length > 5 ∧ counterOnCompilePath.length = 9 := by decide +kernel

end Qrlew.C16
