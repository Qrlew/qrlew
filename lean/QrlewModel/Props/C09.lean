import QrlewModel.Props.C01
/-!
# C09 — DP rewriting is exact when noise and clipping are inactive (algebraic core, over ℝ)

* clipping inactive: a unit whose L2 norm is within the bound is not rescaled, so the clipped sums are the plain sums;
* recombination: `sum / greatest(1, count)` is the mean of a non-empty group; `E[x²] − E[x]²` is the (population)
  variance of the data — the expression the code computes after the repair of the missing square
  (`/repo` commit "fix: DP variance / standard deviation subtract the squared mean").
-/
namespace Qrlew.C09
open Qrlew Qrlew.Clip Qrlew.C01

/-- a unit within the clipping bound is not rescaled -/
theorem scale_one_of_within (c : ℝ) (hc : 0 < c) (v : List ℝ) (h : normSq realOps v ≤ c * c) :
    scale realOps rz c v = 1 := by
  have hn : Real.sqrt (normSq realOps v) ≤ c := (Real.sqrt_le_sqrt h).trans_eq (Real.sqrt_mul_self hc.le)
  rw [scale_real, if_neg hc.ne', max_eq_left ((div_le_one hc).mpr hn), div_one]

/-- … so its clipped contribution is its true contribution -/
theorem scaled_eq_self (c : ℝ) (hc : 0 < c) (v : List ℝ) (h : normSq realOps v ≤ c * c) :
    scaled realOps rz c v = v := by
  simp only [scaled, scale_one_of_within c hc v h, realOps_mul, mul_one, List.map_id']

/-- and the clipped sums over all units are the plain sums (any number of units and groups) -/
theorem total_exact (g : Nat) (c : ℝ) (hc : 0 < c) (us : List (List ℝ)) (h : ∀ u ∈ us, normSq realOps u ≤ c * c) :
    total realOps rz g c us = us.foldr (vadd realOps) (List.replicate g 0) := by
  induction us with
  | nil => rw [total, realOps_zero]; rfl
  | cons u t ih =>
    rw [total, List.foldr_cons, scaled_eq_self c hc u (h u List.mem_cons_self), ih fun w hw => h w (List.mem_cons_of_mem _ hw)]

/-- `sum / greatest(1, count)` is `sum / count` as soon as the group has a row -/
theorem mean_exact (s cnt : ℝ) (h : 1 ≤ cnt) : s / max 1 cnt = s / cnt := by rw [max_eq_right h]

/-- the squared deviations from any `a`, expanded -/
theorem sum_sq_sub (l : List ℝ) (a : ℝ) :
    (l.map fun x => (x - a) ^ 2).sum = (l.map fun x => x * x).sum - 2 * a * l.sum + l.length * a ^ 2 := by
  induction l with
  | nil => simp
  | cons y t ih => simp only [List.map_cons, List.sum_cons, List.length_cons, Nat.cast_succ]; rw [ih]; ring

/-- `E[x²] − E[x]²` is the variance of the data (population form): the mean of the squared deviations. -/
theorem var_exact (xs : List ℝ) (hne : xs ≠ []) :
    (xs.map fun x => x * x).sum / xs.length - (xs.sum / xs.length) ^ 2 =
      (xs.map fun x => (x - xs.sum / xs.length) ^ 2).sum / xs.length := by
  have hn : (xs.length : ℝ) ≠ 0 := Nat.cast_ne_zero.mpr (List.length_pos_iff.mpr hne).ne'
  rw [sum_sq_sub]; field_simp; ring

/-- what the code computed before the repair is not the variance: data {2, 2} has variance 0 but E[x²] − E[x] = 2 -/
theorem var_before_fix_counterexample :
    (([2, 2] : List ℝ).map fun x => x * x).sum / 2 - ([2, 2] : List ℝ).sum / 2 ≠ 0 := by norm_num

end Qrlew.C09
