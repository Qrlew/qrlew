import QrlewModel.Props.C11Lat
import QrlewModel.Model.InjLat
/-!
# C12 — conversions between composite types (the fragment compared by the `injlat` stream)

`InjLat.imageT` / `InjLat.conv` are compared line by line with `DataType::into_data_type` and the injection's `value` on nested
types (interval sets, nullable integers, structs, sized lists).  For every pair of types of the fragment and every value:

* `conv_total`: when the type converts, every value of it converts (nothing is refused);
* `conv_in_image`: the converted value lies in the converted type;
* `conv_injective`: two values never convert to the same value;
* `conv_roundtrip`: conversion only wraps leaves into `some`: where the reverse conversion accepts the converted value it gives
  back the original — and a leaf that does not fit the target is refused, never approximated (`conv_refuses_leaf`).
-/
namespace Qrlew.C12
open Qrlew Qrlew.DTLat Qrlew.InjLat

/-! ### `Intervals::contains` is membership -/

theorem interIv_point (l : Ivs) (m x : Int) (h : SortedAbove m l) (hx : Mem x l) : interIv l x x = [(x, x)] :=
  WF.eq_point (interIv_wf h.wf (Int.le_refl x)) ((mem_interIv h.wf).2 ⟨hx, Int.le_refl x, Int.le_refl x⟩) fun _ hy =>
    Int.le_antisymm ((mem_interIv h.wf).1 hy).2.2 ((mem_interIv h.wf).1 hy).2.1

theorem union_nil_left (cap : Nat) (r : Ivs) : Qrlew.union cap [] r = r := by
  unfold Qrlew.union; cases r <;> simp

theorem simplify_nil (cap : Nat) : simplify cap [] = [] := Qrlew.simplify_nil

theorem point_set (cap : Nat) (hc : 2 ≤ cap) (x : Int) : unionInterval cap (simplify cap []) x x = [(x, x)] := by
  rw [Qrlew.simplify_nil, unionInterval, unionIv, simplify_eq_of_lt]
  simp; omega

/-- `contains x` asks whether `{x} ∩ l` is written `{x}`.  With one interval on the left the intersection is exact, so for a
member `x` it denotes `{x}`, and a well-formed list that denotes `{x}` is `[(x, x)]`. -/
theorem containsV_complete (cap : Nat) (hc : 2 ≤ cap) (l : Ivs) (hl : Good cap l) (x : Int) (hx : Mem x l) :
    containsV cap l x = true := by
  have hp : Good cap [(x, x)] := Good.single hc (Int.le_refl x)
  have hi := inter_exact hc hp hl (Nat.one_mul _ ▸ hl.2)
  unfold containsV isSubsetOf
  rw [point_set cap hc, beq_iff_eq]
  exact WF.eq_point (inter_good hc hp hl).1 ((hi x).2 ⟨mem_single.2 ⟨Int.le_refl x, Int.le_refl x⟩, hx⟩) fun y hy =>
    have := mem_single.1 ((hi y).1 hy).1
    Int.le_antisymm this.2 this.1

theorem containsV_sound (cap : Nat) (hc : 2 ≤ cap) (l : Ivs) (hl : Good cap l) (x : Int) (h : containsV cap l x = true) : Mem x l := by
  unfold containsV at h
  rw [point_set cap hc] at h
  exact C11.isSubsetOf_sound_partial cap hc [(x, x)] l (Good.single hc (Int.le_refl x)) hl (Nat.one_mul _ ▸ hl.2) h x
    (mem_single.2 ⟨Int.le_refl x, Int.le_refl x⟩)

/-! ### values of a type, lists of conversions -/

/-- membership of the source type (strict: a nullable leaf holds `none` or `some n`) -/
def memS : DT → V → Prop
  | .int s, v => ∃ n, v = .i n ∧ Mem n s
  | .opt s, v => v = .none ∨ ∃ n, v = .some (.i n) ∧ Mem n s
  | .pair a b, v => ∃ x y, v = .pair x y ∧ memS a x ∧ memS b y
  | .list t sz, v => ∃ vs, v = .list vs ∧ (∀ x ∈ vs, memS t x) ∧ Mem (vs.length : Int) sz

theorem mapOpt_cons (f : V → Option V) (v : V) (vs ws : List V) (h : mapOpt f (v :: vs) = some ws) :
    ∃ w ws', ws = w :: ws' ∧ f v = some w ∧ mapOpt f vs = some ws' := by
  obtain ⟨w, ws', hw, hws, rfl⟩ := bind₂_pure_eq_some.1 h
  exact ⟨w, ws', rfl, hw, hws⟩

theorem mapOpt_total (f : V → Option V) : ∀ vs : List V, (∀ v ∈ vs, ∃ w, f v = some w) →
    ∃ ws, mapOpt f vs = some ws ∧ ws.length = vs.length := by
  intro vs
  induction vs with
  | nil => exact fun _ => ⟨[], rfl, rfl⟩
  | cons v vs ih =>
    intro h
    obtain ⟨⟨w, hw⟩, hvs⟩ := List.forall_mem_cons.1 h
    obtain ⟨ws, hws, hl⟩ := ih hvs
    exact ⟨w :: ws, bind₂_pure_eq_some.2 ⟨w, ws, hw, hws, rfl⟩, congrArg (· + 1) hl⟩

theorem mapOpt_length (f : V → Option V) : ∀ (vs ws : List V), mapOpt f vs = some ws → ws.length = vs.length := by
  intro vs
  induction vs with
  | nil => rintro ws ⟨⟩; rfl
  | cons v vs ih =>
    intro ws h
    obtain ⟨w, ws', rfl, _, hr⟩ := mapOpt_cons f v vs ws h
    exact congrArg (· + 1) (ih ws' hr)

theorem mapOpt_forall (f : V → Option V) (P : V → Prop) (Q : V → Prop) (hPQ : ∀ v w, P v → f v = some w → Q w) :
    ∀ (vs ws : List V), (∀ v ∈ vs, P v) → mapOpt f vs = some ws → ∀ w ∈ ws, Q w := by
  intro vs
  induction vs with
  | nil => rintro ws - ⟨⟩; exact nofun
  | cons v vs ih =>
    intro ws hP h
    obtain ⟨w, ws', rfl, hf, hr⟩ := mapOpt_cons f v vs ws h
    obtain ⟨hv, hvs⟩ := List.forall_mem_cons.1 hP
    exact List.forall_mem_cons.2 ⟨hPQ v w hv hf, ih ws' hvs hr⟩

theorem mapOpt_injective (f : V → Option V) : ∀ (vs vs' ws : List V),
    (∀ v ∈ vs, ∀ v' w, f v = some w → f v' = some w → v = v') →
    mapOpt f vs = some ws → mapOpt f vs' = some ws → vs = vs' := by
  intro vs
  induction vs with
  | nil =>
    rintro vs' ws - ⟨⟩ h'
    exact (List.length_eq_zero_iff.1 (mapOpt_length f vs' [] h').symm).symm
  | cons v vs ih =>
    intro vs' ws hinj h h'
    obtain ⟨w, ws', rfl, hf, hr⟩ := mapOpt_cons f v vs ws h
    obtain ⟨hv, hvs⟩ := List.forall_mem_cons.1 hinj
    cases vs' with
    | nil => cases h'
    | cons a t =>
      obtain ⟨_, _, he, hf', hr'⟩ := mapOpt_cons f a t _ h'
      cases he
      rw [hv a w hf hf', ih t ws' hvs hr hr']

/-! ### inversion lemmas for `imageT` and `conv` -/

theorem imageT_int_int {cap : Nat} {a b : Ivs} {I : DT} (h : imageT cap (.int a) (.int b) = some I) :
    isSubsetOf cap a b = true ∧ I = .int a := ite_eq_some.1 h

theorem imageT_int_opt {cap : Nat} {a b : Ivs} {I : DT} (h : imageT cap (.int a) (.opt b) = some I) :
    isSubsetOf cap a b = true ∧ I = .opt a := ite_eq_some.1 h

theorem imageT_opt_opt {cap : Nat} {a b : Ivs} {I : DT} (h : imageT cap (.opt a) (.opt b) = some I) :
    isSubsetOf cap a b = true ∧ I = .opt a := ite_eq_some.1 h

theorem imageT_pair {cap : Nat} {a1 a2 b1 b2 I : DT} (h : imageT cap (.pair a1 a2) (.pair b1 b2) = some I) :
    ∃ i1 i2, imageT cap a1 b1 = some i1 ∧ imageT cap a2 b2 = some i2 ∧ I = .pair i1 i2 := bind₂_pure_eq_some.1 h

theorem imageT_list {cap : Nat} {t t' I : DT} {s s' : Ivs} (h : imageT cap (.list t s) (.list t' s') = some I) :
    ∃ u, imageT cap t t' = some u ∧ isSubsetOf cap s s' = true ∧ I = .list u s := bind_ite_eq_some.1 h

theorem conv_pair {cap : Nat} {a1 a2 b1 b2 : DT} {x y w : V} (h : conv cap (.pair a1 a2) (.pair b1 b2) (.pair x y) = some w) :
    ∃ wx wy, conv cap a1 b1 x = some wx ∧ conv cap a2 b2 y = some wy ∧ w = .pair wx wy := bind₂_pure_eq_some.1 h

theorem conv_list {cap : Nat} {t t' : DT} {s s' : Ivs} {vs : List V} {w : V} (h : conv cap (.list t s) (.list t' s') (.list vs) = some w) :
    ∃ ws, mapOpt (conv cap t t') vs = some ws ∧ containsV cap s' (Int.ofNat ws.length) = true ∧ w = .list ws :=
  bind_ite_eq_some.1 h

theorem conv_leaf {cap : Nat} {b : Ivs} {n : Int} {w r : V} (h : (if containsV cap b n = true then some r else none) = some w) :
    containsV cap b n = true ∧ w = r := ite_eq_some.1 h

theorem conv_int_int {cap : Nat} {a b : Ivs} {n : Int} {w : V} (h : conv cap (.int a) (.int b) (.i n) = some w) :
    containsV cap b n = true ∧ w = .i n := conv_leaf h

theorem conv_int_opt {cap : Nat} {a b : Ivs} {n : Int} {w : V} (h : conv cap (.int a) (.opt b) (.i n) = some w) :
    containsV cap b n = true ∧ w = .some (.i n) := conv_leaf h

theorem conv_opt_some {cap : Nat} {a b : Ivs} {n : Int} {w : V} (h : conv cap (.opt a) (.opt b) (.some (.i n)) = some w) :
    containsV cap b n = true ∧ w = .some (.i n) := conv_leaf h

theorem conv_opt_none {cap : Nat} {a b : Ivs} {w : V} (h : conv cap (.opt a) (.opt b) .none = some w) : w = .none :=
  (Option.some.inj h).symm

/-- a conversion only accepts values of the source's shape -/
theorem conv_shape_int {cap : Nat} {a : Ivs} {B : DT} {v w : V} (h : conv cap (.int a) B v = some w) : ∃ n, v = .i n := by
  cases v with
  | i n => exact ⟨n, rfl⟩
  | _ => cases B <;> cases h

theorem conv_shape_opt {cap : Nat} {a b : Ivs} {v w : V} (h : conv cap (.opt a) (.opt b) v = some w) : v = .none ∨ ∃ n, v = .some (.i n) := by
  cases v with
  | none => exact Or.inl rfl
  | some x =>
    cases x with
    | i n => exact Or.inr ⟨n, rfl⟩
    | _ => cases h
  | _ => cases h

theorem conv_shape_pair {cap : Nat} {a1 a2 b1 b2 : DT} {v w : V} (h : conv cap (.pair a1 a2) (.pair b1 b2) v = some w) : ∃ x y, v = .pair x y := by
  cases v with
  | pair x y => exact ⟨x, y, rfl⟩
  | _ => cases h

theorem conv_shape_list {cap : Nat} {t t' : DT} {s s' : Ivs} {v w : V} (h : conv cap (.list t s) (.list t' s') v = some w) : ∃ vs, v = .list vs := by
  cases v with
  | list vs => exact ⟨vs, rfl⟩
  | _ => cases h

/-- Induction on the graph of `conv`: a property of (source type, target type, value, converted value) holds of every successful
conversion as soon as it holds in the six ways a conversion can succeed.  The pairs of types and the values on which `conv` is
`none` by shape are disposed of here, once. -/
theorem conv_induct {cap : Nat} {motive : DT → DT → V → V → Prop}
    (int_int : ∀ a b n, motive (.int a) (.int b) (.i n) (.i n))
    (int_opt : ∀ a b n, motive (.int a) (.opt b) (.i n) (.some (.i n)))
    (opt_none : ∀ a b, motive (.opt a) (.opt b) .none .none)
    (opt_some : ∀ a b n, motive (.opt a) (.opt b) (.some (.i n)) (.some (.i n)))
    (pair : ∀ a1 a2 b1 b2 x y wx wy, motive a1 b1 x wx → motive a2 b2 y wy →
      motive (.pair a1 a2) (.pair b1 b2) (.pair x y) (.pair wx wy))
    (list : ∀ t s t' s' vs ws, mapOpt (conv cap t t') vs = some ws →
      (∀ v w, conv cap t t' v = some w → motive t t' v w) → motive (.list t s) (.list t' s') (.list vs) (.list ws)) :
    ∀ A B v w, conv cap A B v = some w → motive A B v w := by
  intro A
  induction A with
  | int a =>
    intro B v w h
    obtain ⟨n, rfl⟩ := conv_shape_int h
    cases B with
    | int b => exact (conv_int_int h).2 ▸ int_int a b n
    | opt b => exact (conv_int_opt h).2 ▸ int_opt a b n
    | _ => cases h
  | opt a =>
    intro B v w h
    cases B with
    | opt b =>
      rcases conv_shape_opt h with rfl | ⟨n, rfl⟩
      · exact conv_opt_none h ▸ opt_none a b
      · exact (conv_opt_some h).2 ▸ opt_some a b n
    | _ => cases h
  | pair a1 a2 ih1 ih2 =>
    intro B v w h
    cases B with
    | pair b1 b2 =>
      obtain ⟨x, y, rfl⟩ := conv_shape_pair h
      obtain ⟨wx, wy, hx, hy, rfl⟩ := conv_pair h
      exact pair _ _ _ _ _ _ _ _ (ih1 _ _ _ hx) (ih2 _ _ _ hy)
    | _ => cases h
  | list t sz ih =>
    intro B v w h
    cases B with
    | list t' sz' =>
      obtain ⟨vs, rfl⟩ := conv_shape_list h
      obtain ⟨ws, hws, _, rfl⟩ := conv_list h
      exact list _ _ _ _ _ _ hws (ih _)
    | _ => cases h

/-- **A conversion is offered exactly when the lattice reports inclusion**: `into_data_type` (model `imageT`) succeeds on a pair
of types iff `is_subset_of` (model `DTLat.subset`, the function `Props/C11Lat.lean` is about) answers yes — the two modelled
APIs, each compared with the code by its own stream, cannot drift apart. -/
theorem imageT_isSome_eq_subset (cap : Nat) : ∀ (A B : DT), (imageT cap A B).isSome = DTLat.subset cap A B := by
  intro A B
  fun_induction DTLat.subset cap A B with
  | case1 a b | case2 a b | case3 a b => exact isSome_ite
  | case4 a b c d ih1 ih2 => rw [← ih1, ← ih2]; exact isSome_bind₂_pure
  | case5 t s t' s' ih => rw [← ih]; exact isSome_bind_ite
  -- `imageT` lists the same pairs of shapes as `subset`, in the same order: its last equation asks for just these hypotheses
  | case6 A B h1 h2 h3 h4 h5 => rw [imageT.eq_6 cap A B h1 h2 h3 h4 h5]; rfl

theorem subset_of_imageT {cap : Nat} {A B I : DT} (h : imageT cap A B = some I) : DTLat.subset cap A B = true := by
  rw [← imageT_isSome_eq_subset, h]; rfl

/-- hence a conversion is only ever offered into a type that contains every value of the source (below the capacity regime,
as for `type_subset_sound`): nothing has to be approximated to fit. -/
theorem imageT_only_into_supersets (cap k : Nat) (hc : 2 ≤ cap) (hk : k * k < cap) (A B I : DT) (wa : C11.WFT cap k A) (wb : C11.WFT cap k B)
    (h : imageT cap A B = some I) : ∀ v, C11.mem A v → C11.mem B v :=
  C11.type_subset_sound cap k hc hk A B wa wb (subset_of_imageT h)

/-! ### the conversion theorems -/

/-- every value of `A` converts as soon as `A ⊆ B` is reported (`conv_total` uses no more of the converted type than that
it exists) -/
theorem conv_total_of_subset (cap k : Nat) (hc : 2 ≤ cap) (hk : k * k < cap) :
    ∀ (A B : DT), C11.WFT cap k A → C11.WFT cap k B → DTLat.subset cap A B = true → ∀ v, memS A v → ∃ w, conv cap A B v = some w := by
  -- a leaf of the source fits the target's leaf as soon as the inclusion was reported
  have leaf : ∀ {a b : Ivs} {n : Int}, Good cap a ∧ a.length ≤ k → Good cap b ∧ b.length ≤ k → isSubsetOf cap a b = true →
      Mem n a → containsV cap b n = true := fun wa wb h hn =>
    containsV_complete cap hc _ wb.1 _ (C11.leaf_subset cap k hc hk _ _ wa wb h _ hn)
  intro A B
  fun_induction DTLat.subset cap A B with
  | case1 a b => rintro wa wb h v ⟨n, rfl, hn⟩; exact ⟨_, if_pos (leaf wa wb h hn)⟩
  | case2 a b => rintro wa wb h v ⟨n, rfl, hn⟩; exact ⟨_, if_pos (leaf wa wb h hn)⟩
  | case3 a b =>
    rintro wa wb h v (rfl | ⟨n, rfl, hn⟩)
    · exact ⟨.none, rfl⟩
    · exact ⟨_, if_pos (leaf wa wb h hn)⟩
  | case4 a b c d ih1 ih2 =>
    rintro wa wb h v ⟨x, y, rfl, hx, hy⟩
    rw [Bool.and_eq_true] at h
    obtain ⟨wx, hwx⟩ := ih1 wa.1 wb.1 h.1 x hx
    obtain ⟨wy, hwy⟩ := ih2 wa.2 wb.2 h.2 y hy
    exact ⟨_, bind₂_pure_eq_some.2 ⟨wx, wy, hwx, hwy, rfl⟩⟩
  | case5 t s t' s' ih =>
    rintro wa wb h v ⟨vs, rfl, hall, hlen⟩
    rw [Bool.and_eq_true] at h
    obtain ⟨ws, hws, hl⟩ := mapOpt_total (conv cap t t') vs fun x hx => ih wa.1 wb.1 h.1 x (hall x hx)
    have hin : containsV cap s' ws.length = true := by rw [hl]; exact leaf wa.2 wb.2 h.2 hlen
    exact ⟨_, bind_ite_eq_some.2 ⟨ws, hws, hin, rfl⟩⟩
  | case6 => exact fun _ _ h => nomatch h

/-- **Total**: when the type converts, every value of it converts. -/
theorem conv_total (cap k : Nat) (hc : 2 ≤ cap) (hk : k * k < cap) :
    ∀ (A B I : DT), C11.WFT cap k A → C11.WFT cap k B → imageT cap A B = some I → ∀ v, memS A v → ∃ w, conv cap A B v = some w :=
  fun A B _ wa wb h => conv_total_of_subset cap k hc hk A B wa wb (subset_of_imageT h)

/-- **In the converted type**: a converted value lies in the converted type. -/
theorem conv_in_image (cap : Nat) :
    ∀ (A B I : DT), imageT cap A B = some I → ∀ v w, memS A v → conv cap A B v = some w → memS I w := by
  intro A B I hI v w hv hw
  refine conv_induct (motive := fun A B v w => ∀ I, imageT cap A B = some I → memS A v → memS I w)
    ?_ ?_ ?_ ?_ ?_ ?_ A B v w hw I hI hv
  · intro a b n I hI hv; obtain ⟨_, rfl⟩ := imageT_int_int hI; exact hv
  · rintro a b n I hI ⟨m, e, hm⟩; obtain ⟨_, rfl⟩ := imageT_int_opt hI; cases e; exact Or.inr ⟨n, rfl, hm⟩
  · intro a b I hI _; obtain ⟨_, rfl⟩ := imageT_opt_opt hI; exact Or.inl rfl
  · intro a b n I hI hv; obtain ⟨_, rfl⟩ := imageT_opt_opt hI; exact hv
  · rintro a1 a2 b1 b2 x y wx wy ih1 ih2 I hI ⟨x', y', e, hx, hy⟩
    obtain ⟨i1, i2, h1, h2, rfl⟩ := imageT_pair hI
    cases e
    exact ⟨wx, wy, rfl, ih1 i1 h1 hx, ih2 i2 h2 hy⟩
  · rintro t s t' s' vs ws hws ih I hI ⟨vs', e, hall, hlen⟩
    obtain ⟨u, h1, _, rfl⟩ := imageT_list hI
    cases e
    exact ⟨ws, rfl, mapOpt_forall _ (memS t) (memS u) (fun x y hx hy => ih x y hy u h1 hx) vs ws hall hws,
      by rw [mapOpt_length _ vs ws hws]; exact hlen⟩

/-- **Injective**: two values never convert to the same value. -/
theorem conv_injective (cap : Nat) :
    ∀ (A B : DT) (v v' w : V), conv cap A B v = some w → conv cap A B v' = some w → v = v' := by
  intro A B v v' w h h'
  refine conv_induct (motive := fun A B v w => ∀ v', conv cap A B v' = some w → v = v') ?_ ?_ ?_ ?_ ?_ ?_ A B v w h v' h'
  · intro a b n v' h'; obtain ⟨n', rfl⟩ := conv_shape_int h'; exact (conv_int_int h').2
  · intro a b n v' h'; obtain ⟨n', rfl⟩ := conv_shape_int h'; exact V.some.inj (conv_int_opt h').2
  · intro a b v' h'
    rcases conv_shape_opt h' with rfl | ⟨n', rfl⟩
    · rfl
    · cases (conv_opt_some h').2
  · intro a b n v' h'
    rcases conv_shape_opt h' with rfl | ⟨n', rfl⟩
    · cases conv_opt_none h'
    · exact (conv_opt_some h').2
  · intro a1 a2 b1 b2 x y wx wy ih1 ih2 v' h'
    obtain ⟨x', y', rfl⟩ := conv_shape_pair h'
    obtain ⟨wx', wy', hx', hy', e⟩ := conv_pair h'
    cases e
    rw [ih1 x' hx', ih2 y' hy']
  · intro t s t' s' vs ws hws ih v' h'
    obtain ⟨vs', rfl⟩ := conv_shape_list h'
    obtain ⟨ws', hws', _, e⟩ := conv_list h'
    cases e
    rw [mapOpt_injective _ vs vs' ws (fun x _ x' y hx hx' => ih x y hx x' hx') hws hws']

theorem mapOpt_roundtrip (f g : V → Option V) : ∀ (vs ws vs' : List V),
    (∀ v ∈ vs, ∀ w v', f v = some w → g w = some v' → v' = v) →
    mapOpt f vs = some ws → mapOpt g ws = some vs' → vs' = vs := by
  intro vs
  induction vs with
  | nil => rintro ws vs' - ⟨⟩ ⟨⟩; rfl
  | cons v vs ih =>
    intro ws vs' hr h h'
    obtain ⟨w, ws1, rfl, hv, hrest⟩ := mapOpt_cons f v vs ws h
    obtain ⟨u, us, rfl, hw, hrest'⟩ := mapOpt_cons g w ws1 vs' h'
    obtain ⟨hr1, hrs⟩ := List.forall_mem_cons.1 hr
    rw [hr1 w u hv hw, ih ws1 us hrs hrest hrest']

/-- **Round trip**: where the reverse conversion exists (it accepts the converted value), it returns the original value —
for every pair of types of the fragment and every value, at any nesting depth. -/
theorem conv_roundtrip (cap : Nat) :
    ∀ (A B : DT) (v w v' : V), conv cap A B v = some w → conv cap B A w = some v' → v' = v := by
  intro A B v w v' h h'
  refine conv_induct (motive := fun A B v w => ∀ v', conv cap B A w = some v' → v' = v) ?_ ?_ ?_ ?_ ?_ ?_ A B v w h v' h'
  · intro a b n v' h'; exact (conv_int_int h').2
  · intro a b n v' h'; cases h'
  · intro a b v' h'; exact conv_opt_none h'
  · intro a b n v' h'; exact (conv_opt_some h').2
  · intro a1 a2 b1 b2 x y wx wy ih1 ih2 v' h'
    obtain ⟨ux, uy, hx', hy', rfl⟩ := conv_pair h'
    rw [ih1 ux hx', ih2 uy hy']
  · intro t s t' s' vs ws hws ih v' h'
    obtain ⟨us, hus, _, rfl⟩ := conv_list h'
    rw [mapOpt_roundtrip _ _ vs ws us (fun x _ y z hx hy => ih x y hx z hy) hws hus]

/-- non-vacuity of the round trip: a struct with a list goes to a wider type and comes back -/
example :
    let A : DT := .pair (.opt [(1, 3)]) (.list (.int [(0, 5)]) [(1, 2)])
    let B : DT := .pair (.opt [(0, 4)]) (.list (.int [(0, 9)]) [(0, 2)])
    let v : V := .pair (.some (.i 2)) (.list [.i 4, .i 0])
    conv 128 A B v = some v ∧ conv 128 B A v = some v := ⟨by rfl, by rfl⟩

/-- **Refused, not approximated**: a leaf outside the target's range makes the whole conversion fail. -/
theorem conv_refuses_leaf (cap : Nat) (a b : Ivs) (n : Int) (h : containsV cap b n = false) :
    conv cap (.int a) (.int b) (.i n) = none ∧ conv cap (.int a) (.opt b) (.i n) = none ∧ conv cap (.opt a) (.opt b) (.some (.i n)) = none := by
  have hn : ¬containsV cap b n = true := ne_true_of_eq_false h
  exact ⟨if_neg hn, if_neg hn, if_neg hn⟩

/-- non-vacuity: a struct with a list converts into a wider struct with a nullable leaf; a value is carried over, a value whose
leaf lies outside the narrower target is refused -/
example :
    let A : DT := .pair (.int [(1, 3)]) (.list (.int [(0, 5)]) [(1, 2)])
    let B : DT := .pair (.opt [(0, 4)]) (.list (.int [(0, 9)]) [(0, 2)])
    imageT 128 A B = some (.pair (.opt [(1, 3)]) (.list (.int [(0, 5)]) [(1, 2)])) ∧ imageT 128 B A = none ∧
      conv 128 A B (.pair (.i 2) (.list [.i 5])) = some (.pair (.some (.i 2)) (.list [.i 5])) ∧
      conv 128 B A (.pair (.some (.i 4)) (.list [.i 5])) = none := ⟨by decide +kernel, by decide +kernel, by rfl, by rfl⟩

end Qrlew.C12
