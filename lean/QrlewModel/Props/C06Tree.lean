import QrlewModel.Props.C06
import QrlewModel.Props.C10
import QrlewModel.Model.ExprImg
/-!
# C06 — range propagation through whole arithmetic expressions, on the concrete model

`Qrlew.ExprImg.image` composes the models of the partitioned-monotonic images of `+`, `-`, `*`, `greatest`, `least` (each compared with the real
function by the `fnimg` stream) the way `Expr::super_image` does, and is itself compared with the real `Expr::super_image` on
random expression trees by the `exprimg` stream.  `arith_expr_sound`: for every expression tree (any shape and depth), every
family of column types (unions of intervals) and every row whose cells lie in their column's type, the value of the expression
lies in the propagated range.
-/
namespace Qrlew.C06
open Qrlew Qrlew.ExprImg

def InRange (x : Int) : Prop := i64Min ≤ x ∧ x ≤ i64Max

theorem sat_inRange (x : Int) : InRange (sat x) :=
  ⟨Int.le_max_left .., Int.max_le.2 ⟨by decide, Int.min_le_left ..⟩⟩

theorem inRange_max {x y : Int} (hx : InRange x) (hy : InRange y) : InRange (max x y) :=
  ⟨Int.le_trans hx.1 (Int.le_max_left ..), Int.max_le.2 ⟨hx.2, hy.2⟩⟩

theorem inRange_min {x y : Int} (hx : InRange x) (hy : InRange y) : InRange (min x y) :=
  ⟨Int.le_min.2 ⟨hx.1, hy.1⟩, Int.le_trans (Int.min_le_left ..) hx.2⟩

/-- the literals of an expression fit in an i64 -/
def LitsInRange : AE → Prop
  | .col _ => True
  | .lit v => InRange v
  | .plus a b => LitsInRange a ∧ LitsInRange b
  | .minus a b => LitsInRange a ∧ LitsInRange b
  | .mul a b => LitsInRange a ∧ LitsInRange b
  | .greatest a b => LitsInRange a ∧ LitsInRange b
  | .least a b => LitsInRange a ∧ LitsInRange b

/-- a binary node whose image is a `pmImage2` (hence within capacity): from the function's own soundness theorem and the three
invariants of the operands to the three invariants of the node -/
theorem bin_sound {cap : Nat} (hc : 2 ≤ cap) {parts : List ((Int × Int) × (Int × Int))} {f : Int → Int → Int} {x y : Int}
    {s1 s2 : Ivs}
    (hs : ∀ s1 s2, Good cap s1 → Good cap s2 → ∀ x y, Mem x s1 → Mem y s2 → InRange x → InRange y →
      Mem (f x y) (pmImage2 cap parts f s1 s2))
    (hr : InRange x → InRange y → InRange (f x y)) (ha : Mem x s1 ∧ Good cap s1 ∧ InRange x) (hb : Mem y s2 ∧ Good cap s2 ∧ InRange y) :
    Mem (f x y) (pmImage2 cap parts f s1 s2) ∧ Good cap (pmImage2 cap parts f s1 s2) ∧ InRange (f x y) :=
  ⟨hs _ _ ha.2.1 hb.2.1 _ _ ha.1 hb.1 ha.2.2 hb.2.2, C10.pmImage2_good cap hc .., hr ha.2.2 hb.2.2⟩

/-- **C06 for every arithmetic expression**: value ∈ propagated range (together with the two invariants the induction needs:
the propagated range is a well-formed interval set within capacity, and the value fits in an i64). -/
theorem arith_expr_sound (cap : Nat) (hc : 2 ≤ cap) (tys : Nat → Ivs) (hty : ∀ i, Good cap (tys i))
    (env : Nat → Int) (henv : ∀ i, Mem (env i) (tys i)) (hrange : ∀ i, InRange (env i)) :
    ∀ e : AE, LitsInRange e → Mem (eval env e) (image cap tys e) ∧ Good cap (image cap tys e) ∧ InRange (eval env e) := by
  intro e
  induction e with
  | col i => exact fun _ => ⟨henv i, hty i, hrange i⟩
  | lit v => exact fun h => ⟨C10.mem_point v, Good.single hc (Int.le_refl v), h⟩
  | plus a b iha ihb => exact fun h => bin_sound hc (plus_sound cap hc) (fun _ _ => sat_inRange _) (iha h.1) (ihb h.2)
  | minus a b iha ihb => exact fun h => bin_sound hc (minus_sound cap hc) (fun _ _ => sat_inRange _) (iha h.1) (ihb h.2)
  | mul a b iha ihb => exact fun h => bin_sound hc (mul_sound cap hc) (fun _ _ => sat_inRange _) (iha h.1) (ihb h.2)
  | greatest a b iha ihb => exact fun h => bin_sound hc (C10.greatest_sound cap hc) inRange_max (iha h.1) (ihb h.2)
  | least a b iha ihb => exact fun h => bin_sound hc (C10.least_sound cap hc) inRange_min (iha h.1) (ihb h.2)

/-- column types / cells of a row as families; beyond the row's width (columns the real code rejects) both are padded with `0` -/
def tysOf (T : List Ivs) : Nat → Ivs := fun i => if i < T.length then T.getD i [] else [(0, 0)]
def envOf (row : List Int) : Nat → Int := fun i => row.getD i 0

theorem tysOf_good {cap : Nat} (hc : 2 ≤ cap) {T : List Ivs} (hT : C10.RowType cap T) (i : Nat) : Good cap (tysOf T i) := by
  unfold tysOf; split
  · exact C10.getD_good cap hc T hT i
  · exact Good.single hc (Int.le_refl 0)

theorem mem_envOf_tysOf {row : List Int} {T : List Ivs} (h : C10.RowIn row T) (i : Nat) : Mem (envOf row i) (tysOf T i) := by
  unfold tysOf envOf; split
  · exact h.2 i ‹_›
  · rw [C10.getD_ge row i 0 (h.1 ▸ Nat.le_of_not_lt ‹_›)]; exact C10.mem_point 0

theorem envOf_inRange {row : List Int} (hr : ∀ x ∈ row, C10.InRange x) (i : Nat) : InRange (envOf row i) :=
  C10.getD_of_forall (P := InRange) hr ⟨by decide, by decide⟩ i

/-- **WHERE, then SELECT** (one `Map` node: C10 composed with C06): for every row type, every predicate of the C10 fragment and
every arithmetic expression tree, a row that satisfies the predicate evaluates the expression inside the range propagated from
the *narrowed* column types. -/
theorem where_then_project_sound (cap : Nat) (hc : 2 ≤ cap) (T : List Ivs) (hT : C10.RowType cap T) (row : List Int)
    (hrow : C10.RowIn row T) (hr : ∀ x ∈ row, C10.InRange x) (p : Pred) (hok : C10.PredOk T.length p) (hev : evalPred row p = true)
    (e : AE) (he : LitsInRange e) : Mem (eval (envOf row) e) (image cap (tysOf (filterT cap T p)) e) :=
  (arith_expr_sound cap hc _ (tysOf_good hc (C10.filter_wf cap hc p T hT).1) _
    (mem_envOf_tysOf (C10.filter_sound cap hc p T hT row hrow hr hok hev)) (envOf_inRange hr) e he).1

/-- non-vacuity: `WHERE c0 >= 3`, `SELECT c0 + c1` on `c0 ∈ [0, 10]`, `c1 ∈ [2, 4]` at the row `(4, 4)`: the range is `[5, 14]`, not `[2, 14]` -/
example :
    image 128 (tysOf (filterT 128 [[(0, 10)], [(2, 4)]] (.gt (.col 0) (.lit 3)))) (.plus (.col 0) (.col 1)) = [(5, 14)] ∧
      eval (envOf [4, 4]) (.plus (.col 0) (.col 1)) = 8 ∧ evalPred [4, 4] (.gt (.col 0) (.lit 3)) = true := by decide +kernel

/-- non-vacuity: `(c0 + c0) * c1 - 3` with `c0 ∈ [1, 2] ∪ [5, 5]`, `c1 ∈ [-1, 4]` at the row `(5, -1)` -/
example :
    let e : AE := .minus (.mul (.plus (.col 0) (.col 0)) (.col 1)) (.lit 3)
    let tys : Nat → Ivs := fun i => if i = 0 then [(1, 2), (5, 5)] else [(-1, 4)]
    eval (fun i => if i = 0 then 5 else -1) e = -13 ∧ image 128 tys e = [(-13, 37)] ∧ Mem (-13) (image 128 tys e) := by decide +kernel

end Qrlew.C06
