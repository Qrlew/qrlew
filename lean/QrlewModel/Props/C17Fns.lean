import QrlewModel.Generated.DialectFns
/-!
# C17 — every scalar function × every translator, exhaustively

`Generated/DialectFns.lean` is rebuilt on every run by rendering `SELECT f(args) FROM tf` with the real translators for every
scalar function of the library and reading the text back with the same dialect (no sampling: 44 of the pairs tried
are not read back intact on the reference tree).  `generated_functions_readable` states that the pairs that fail are exactly the
ones recorded below (each of them is also an entry of `known_findings.jsonl`, reproduced by the `dialectfns` stream with the
rendered text as replay): a translator that starts writing something its own reader does not understand breaks this theorem.
-/
namespace Qrlew.C17

/-- the recorded exceptions (hand-maintained; one entry per known finding, in the sorted order the translator writes) -/
def recordedExceptions : List (String × String × String) := [
  ("bigquery", "ExtractEpoch", "readback-error"),
  ("bigquery", "IsBool", "readback-error"),
  ("bigquery", "Log", "readback-type"),
  ("bigquery", "Md5", "readback-error"),
  ("databricks", "CastAsFloat", "readback-error"),
  ("databricks", "ExtractEpoch", "readback-type"),
  ("databricks", "IsBool", "readback-error"),
  ("hive", "ExtractEpoch", "readback-error"),
  ("hive", "IsBool", "readback-error"),
  ("hive", "Log", "readback-type"),
  ("hive", "Md5", "readback-error"),
  ("mssql", "And", "readback-type"),
  ("mssql", "BitwiseAnd", "readback-type"),
  ("mssql", "BitwiseOr", "readback-type"),
  ("mssql", "BitwiseXor", "readback-type"),
  ("mssql", "Ceil", "readback-error"),
  ("mssql", "CharLength", "readback-error"),
  ("mssql", "Eq", "readback-type"),
  ("mssql", "ExtractEpoch", "readback-error"),
  ("mssql", "Gt", "readback-type"),
  ("mssql", "GtEq", "readback-type"),
  ("mssql", "IsBool", "readback-error"),
  ("mssql", "Lt", "readback-type"),
  ("mssql", "LtEq", "readback-type"),
  ("mssql", "Md5", "readback-panic"),
  ("mssql", "Not", "readback-type"),
  ("mssql", "NotEq", "readback-type"),
  ("mssql", "Or", "readback-type"),
  ("mssql", "Substr", "readback-error"),
  ("mssql", "Xor", "readback-type"),
  ("mysql", "CastAsInteger", "readback-panic"),
  ("mysql", "Decode", "readback-panic"),
  ("mysql", "ExtractEpoch", "readback-type"),
  ("mysql", "IsBool", "readback-error"),
  ("postgresql", "BitwiseXor", "readback-panic"),
  ("postgresql", "Date", "readback-error"),
  ("postgresql", "DateFormat", "readback-error"),
  ("postgresql", "DatetimeDiff", "readback-error"),
  ("postgresql", "Dayname", "readback-error"),
  ("postgresql", "IsBool", "readback-error"),
  ("postgresql", "Quarter", "readback-error"),
  ("postgresql", "Unhex", "readback-error"),
  ("postgresql", "UnixTimestamp", "readback-error"),
  ("redshift", "IsBool", "readback-error")
]

/-- the regenerated table *is* the recorded list (both are kept sorted by dialect, function, outcome): the two inclusions below
are its two halves, and comparing the tables as written costs nothing to check -/
theorem generated_eq_recorded : Generated.dialectFnNotOk = recordedExceptions := rfl

theorem generated_functions_readable : ∀ e ∈ Generated.dialectFnNotOk, e ∈ recordedExceptions :=
  fun _ h => generated_eq_recorded ▸ h

/-- … and nothing is recorded that no longer happens (the list does not rot) -/
theorem recorded_exceptions_current : ∀ e ∈ recordedExceptions, e ∈ Generated.dialectFnNotOk :=
  fun _ h => generated_eq_recorded ▸ h

/-- non-vacuity: several hundred pairs were tried -/
example : 500 ≤ Generated.dialectFnTried := by decide

end Qrlew.C17
