import QrlewModel.Lemmas.DpEvent
import QrlewModel.Lemmas.RealOps
/-!
# C03 — privacy loss is never under-reported; each DP aggregation fits its budget

Part 1 (core Lean): event composition drops nothing but no-ops and keeps the order.
Part 2 (over ℝ, `Real.sqrt` / `Real.log` from Mathlib): the multiplier recorded for a sum is not larger
than σ/C used in the query; the even split of (ε, δ) over the sums adds up to the budget.
-/
namespace Qrlew.C03
open Qrlew Qrlew.DpEvent

variable {K : Type} (z : K → Bool)

/-- **Composition records every mechanism**: the elementary non-no-op mechanisms of `a.compose(b)` are
those of `a` followed by those of `b`. -/
theorem leaves_compose (a b : DpEvent K) :
    leaves z (compose z a b) = leaves z a ++ leaves z b := by
  unfold compose
  split
  · rw [leaves_of_isNoOp z b ‹_›, List.append_nil]
  · split
    · rw [leaves_of_isNoOp z a ‹_›, List.nil_append]
    · -- neither is a no-op: in each of the four shapes `compose` builds, the entries of `a` come before those of `b`
      split
      · exact leavesL_append z _ _
      · exact (leavesL_append z _ _).trans (congrArg _ (leavesL_singleton z _))
      · rfl
      · exact congrArg _ (leavesL_singleton z _)

theorem leaves_foldl_compose (es : List (DpEvent K)) (acc : DpEvent K) :
    leaves z (es.foldl (compose z) acc) = leaves z acc ++ leavesL z es := by
  induction es generalizing acc with
  | nil => exact (List.append_nil _).symm
  | cons e rest ih => rw [List.foldl_cons, ih, leaves_compose, List.append_assoc]; rfl

/-- … and so for the event collected along a whole rewritten tree (`FromIterator`, `Rewriter::{reduce, join, set}`). -/
theorem leaves_collect (es : List (DpEvent K)) :
    leaves z (collect z es) = leavesL z es :=
  leaves_foldl_compose z es .noOp

/-- converse of `leaves_of_isNoOp`: an event with no recorded mechanism is one `is_no_op` answers yes for -/
theorem isNoOp_of_leaves_nil : ∀ (e : DpEvent K), leaves z e = [] → isNoOp z e = true :=
  fun e => (isNoOp_iff_leaves_nil z e).mpr

theorem allNoOp_of_leavesL_nil : ∀ (es : List (DpEvent K)), leavesL z es = [] → allNoOp z es = true :=
  fun es => (allNoOp_iff_leavesL_nil z es).mpr

/-- **`is_no_op` is exact**: an event is reported as spending nothing exactly when it records no mechanism with a non-zero
parameter, at any nesting depth — a composed event hiding a real mechanism is never a no-op, and `compose` (which drops
no-op operands) therefore drops nothing else. -/
theorem isNoOp_iff_no_leaves (e : DpEvent K) : isNoOp z e = true ↔ leaves z e = [] :=
  isNoOp_iff_leaves_nil z e

/-- composition is associative on what it records (the grouping of `compose` calls along the tree does not matter) -/
theorem leaves_compose_assoc (a b c : DpEvent K) :
    leaves z (compose z (compose z a b) c) = leaves z (compose z a (compose z b c)) := by
  simp only [leaves_compose, List.append_assoc]

/-- a composition is a no-op only if both operands are -/
theorem compose_noOp_iff (a b : DpEvent K) : isNoOp z (compose z a b) = true ↔ isNoOp z a = true ∧ isNoOp z b = true := by
  simp only [isNoOp_iff_no_leaves, leaves_compose, List.append_eq_nil_iff]

/-! ### budget arithmetic over ℝ -/

open Budget

theorem noiseMultiplier_real (e d : ℝ) :
    noiseMultiplier realOps e d = max 0 (Real.sqrt (2 * Real.log (1.25 / d)) / e) := by
  rw [noiseMultiplier, realOps_zero, realOps_two]; rfl

theorem one_lt_c125 : (1 : ℝ) < 1.25 := by norm_num

/-- dividing the budget by `n ≥ 1` multiplies the quotient by `n` and can only enlarge the numerator -/
theorem div_le_div_share {A B e n : ℝ} (hA : 0 ≤ A) (hAB : A ≤ B) (he : 0 < e) (hn : 1 ≤ n) : A / e ≤ B / (e / n) := by
  rw [div_div_eq_mul_div]
  exact div_le_div_of_nonneg_right (hAB.trans (le_mul_of_one_le_right (hA.trans hAB) hn)) he.le

/-- **Never under-reported**: the multiplier recorded for each of the `n` sums of a DP aggregation
(computed from the undivided ε, δ) is at most the multiplier σ/C actually applied (computed from ε/n, δ/n). -/
theorem recorded_le_actual (n : ℕ) (hn : 1 ≤ n) (e d : ℝ) (he : 0 < e) (hd : 0 < d) :
    recordedMultiplier realOps e d ≤ noiseMultiplier realOps (e / n) (d / n) := by
  rw [recordedMultiplier, noiseMultiplier_real, noiseMultiplier_real]
  have hn' : (1 : ℝ) ≤ n := Nat.one_le_cast.mpr hn
  have h125 : (0 : ℝ) < 1.25 := one_pos.trans one_lt_c125
  -- the smaller δ share makes the logarithm, hence the numerator, larger
  have hlog : Real.log (1.25 / d) ≤ Real.log (1.25 / (d / n)) :=
    Real.log_le_log (div_pos h125 hd)
      (div_le_div_of_nonneg_left h125.le (div_pos hd (one_pos.trans_le hn')) (div_le_self hd.le hn'))
  exact max_le_max le_rfl (div_le_div_share (Real.sqrt_nonneg _)
    (Real.sqrt_le_sqrt (mul_le_mul_of_nonneg_left hlog two_pos.le)) he hn')

/-- σ applied to a sum with clipping bound `C ≥ 0` is (multiplier of its share) · C, so σ/C is that multiplier. -/
theorem sigma_eq (e d c : ℝ) (hc : 0 ≤ c) :
    gaussianNoise realOps e d c = noiseMultiplier realOps e d * c := by
  have h0 : 0 ≤ noiseMultiplier realOps e d := by rw [noiseMultiplier_real]; exact le_max_left _ _
  rw [gaussianNoise, realOps_zero, realOps_max, realOps_mul, max_eq_right (mul_nonneg h0 hc)]

/-- **Fits its budget** (basic composition): the even split of (ε, δ) over `n ≥ 1` sums, and the split
between key release (share `s`) and aggregates (share `1 − s`), add up to exactly the budget handed in. -/
theorem budget_sum (n : ℕ) (hn : 1 ≤ n) (e d s : ℝ) :
    (n : ℝ) * (e / n) = e ∧ (n : ℝ) * (d / n) = d ∧ e * s + e * (1 - s) = e ∧ d * s + d * (1 - s) = d := by
  have hnpos : (n : ℝ) ≠ 0 := Nat.cast_ne_zero.mpr (Nat.pos_iff_ne_zero.mp hn)
  have split : ∀ x : ℝ, x * s + x * (1 - s) = x := fun x => by rw [← mul_add, add_sub_cancel, mul_one]
  exact ⟨mul_div_cancel₀ e hnpos, mul_div_cancel₀ d hnpos, split e, split d⟩

/-- every σ produced by `gaussian_mechanisms` is the calibrated multiplier of its (ε/n, δ/n) share times its bound -/
theorem sigmas_calibrated (e d : ℝ) (bounds : List ℝ) (hb : ∀ b ∈ bounds, 0 ≤ b) :
    sigmas realOps e d bounds =
      bounds.map fun b => noiseMultiplier realOps (e / bounds.length) (d / bounds.length) * b :=
  List.map_congr_left fun b hbm => sigma_eq _ _ _ (hb b hbm)

/-- Documented behaviour, not a guarantee: an event with multiplier 0 is treated as a no-op
(the code only produces it when σ = 0, i.e. when the clipping bound is 0 and the column is identically 0). -/
theorem gaussian_zero_is_noop : isNoOp (fun x : Int => x == 0) (.gaussian 0) = true := by decide

/-- Non-vacuity of `recorded_le_actual` / composition on concrete data. -/
example : (1 : ℕ) ≤ 3 ∧ (0 : ℝ) < 1 ∧ (0 : ℝ) < 1e-5 := by norm_num

example : leaves (fun x : Int => x == 0)
    (collect (fun x : Int => x == 0) [.gaussian 2, .noOp, .composed [.gaussian 0, .epsilonDelta 1 1], .gaussian 3])
    = [.gaussian 2, .epsilonDelta 1 1, .gaussian 3] := rfl

end Qrlew.C03
