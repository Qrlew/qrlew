import QrlewModel.Model.Quote
import QrlewModel.Generated.Dialects
import QrlewModel.Props.C08
/-!
# C17 — per-dialect quoting: what a translator writes, the same dialect reads back

The table `Generated.dialects` is regenerated on every run from the real translators (`identifier`) and from the sqlparser
dialects the library reads each target with.  Over that table:

* `writer_quote_readable`: every reading dialect accepts the quote character its translator writes (the `assert!` in
  `try_identifier` cannot fire on the library's own output);
* `ident_round_trip`: for every dialect, a name without a doubled / backslash-preceded quote character is read back unchanged
  from its quoted form by the tokenizer model;
* `literal_round_trip`: the same for string literals, where the dialects that treat backslash as an escape (MySQL, BigQuery)
  additionally need a value without backslash — `backslash_counterexample` shows the need is real.
-/
namespace Qrlew.C17
open Qrlew.Quote Qrlew.Generated

/-- the tokenizer and `unesc` follow the same recursion over the token body -/
theorem readQ_of_unesc (q : Char) : ∀ (l v : List Char), unesc q l = some v → readQ q false (l ++ [q]) = some (v, []) := by
  intro l
  fun_induction unesc q l with
  | case1 => intro v hv; cases hv; simp [readQ]
  | case2 | case5 => exact fun _ h => nomatch h   -- a lone quote: `unesc` fails
  | case3 c hc => intro v hv; cases hv; simp [readQ, hc]
  | case4 c c' rest hc hc' ih =>
    -- a doubled quote: both read one quote and go on behind the pair
    intro v hv
    obtain ⟨v', hv', rfl⟩ := Option.map_eq_some_iff.mp hv
    simp [readQ, hc, hc', ih v' hv']
  | case6 c c' rest hc ih =>
    intro v hv
    obtain ⟨v', hv', rfl⟩ := Option.map_eq_some_iff.mp hv
    simpa [readQ, hc] using ih v' hv'

/-- without a backslash in the text, a backslash-escaping tokenizer reads what a plain one reads -/
theorem readQ_backslash_free (q : Char) : ∀ (l : List Char), (∀ c ∈ l, c ≠ '\\') → readQ q true l = readQ q false l := by
  intro l
  -- the two readers part at a backslash only
  fun_induction readQ q true l with
  | case1 => intro _; rw [readQ]
  | case2 c h => intro _; rw [readQ, if_pos h]
  | case3 c h => intro _; rw [readQ, if_neg h]
  | case4 c c' rest h h' ih =>
    intro hl
    rw [readQ, if_pos h, if_pos h', ih fun x hx => hl x (List.mem_cons_of_mem _ (List.mem_cons_of_mem _ hx))]
  | case5 c c' rest h h' => intro _; rw [readQ, if_pos h, if_neg h']
  | case6 c c' rest h hb => exact fun hl => absurd (by simpa using hb) (hl c List.mem_cons_self)
  | case7 c c' rest h hb ih =>
    intro hl
    rw [readQ, if_neg h, if_neg (by simp), ih fun x hx => hl x (List.mem_cons_of_mem _ hx)]

/-- escaping only ever adds quote characters -/
theorem esc_backslash_free (q : Char) (hq : q ≠ '\\') : ∀ (s : List Char) (p : Char), (∀ c ∈ s, c ≠ '\\') → ∀ c ∈ esc q p s, c ≠ '\\' := by
  have cons : ∀ {a : Char} {l : List Char}, a ≠ '\\' → (∀ c ∈ l, c ≠ '\\') → ∀ c ∈ a :: l, c ≠ '\\' :=
    fun ha hl => List.forall_mem_cons.2 ⟨ha, hl⟩
  have hd : ∀ {a : Char} {l : List Char}, (∀ c ∈ a :: l, c ≠ '\\') → a ≠ '\\' := fun h => h _ List.mem_cons_self
  have tl : ∀ {a : Char} {l : List Char}, (∀ c ∈ a :: l, c ≠ '\\') → ∀ c ∈ l, c ≠ '\\' :=
    fun h c hc => h c (List.mem_cons_of_mem _ hc)
  intro s p
  fun_induction esc q p s with
  | case1 | case2 | case4 => exact fun h => h
  | case3 => exact fun _ => cons hq (cons hq nofun)
  | case5 _ _ _ _ _ _ ih => exact fun h => cons (hd h) (ih (tl h))
  | case6 _ _ _ _ _ _ _ ih => exact fun h => cons hq (cons hq (ih (tl (tl h))))
  | case7 _ _ _ _ _ _ _ ih => exact fun h => cons hq (cons hq (ih (tl h)))
  | case8 _ _ _ _ _ ih => exact fun h => cons (hd h) (ih (tl h))

/-- a plain tokenizer reads back what the renderer writes -/
theorem write_read (q : Char) (s : List Char) (h : Clean q (Char.ofNat 0) s) : readBack q false (write q s) = some s := by
  have := readQ_of_unesc q _ _ (C08.unesc_esc q s (Char.ofNat 0) h)
  simp [write, readBack, this]

/-- a backslash-escaping tokenizer reads back what the renderer writes when the value has no backslash -/
theorem write_read_backslash (q : Char) (hq : q ≠ '\\') (s : List Char) (h : Clean q (Char.ofNat 0) s)
    (hb : ∀ c ∈ s, c ≠ '\\') : readBack q true (write q s) = some s := by
  have h1 := readQ_of_unesc q _ _ (C08.unesc_esc q s (Char.ofNat 0) h)
  have hfree : ∀ c ∈ esc q (Char.ofNat 0) s ++ [q], c ≠ '\\' := by
    intro c hc
    rcases List.mem_append.mp hc with hc | hc
    · exact esc_backslash_free q hq s _ hb c hc
    · simp only [List.mem_singleton] at hc; subst hc; exact hq
  have h2 := readQ_backslash_free q _ hfree
  simp [write, readBack, h2, h1]

theorem writer_quote_readable : ∀ d ∈ dialects, d.reads = true → d.write ∈ d.delims := by decide

theorem writer_quotes_double : ∀ d ∈ dialects, d.write = '"' ∨ d.write = '`' := by decide

/-- identifiers: every dialect reads back the names its translator writes (identifier tokens have no backslash escapes) -/
theorem ident_round_trip : ∀ d ∈ dialects, ∀ s, Clean d.write (Char.ofNat 0) s → readBack d.write false (write d.write s) = some s :=
  fun d _ s h => write_read d.write s h

/-- string literals: every dialect reads back the values its translator writes; backslash-escaping dialects need a backslash-free value -/
theorem literal_round_trip : ∀ d ∈ dialects, ∀ s, Clean '\'' (Char.ofNat 0) s → (d.backslash = true → ∀ c ∈ s, c ≠ '\\') →
    readBack '\'' d.backslash (write '\'' s) = some s := by
  intro d _ s h hb
  cases hbs : d.backslash with
  | false => exact write_read '\'' s h
  | true => exact write_read_backslash '\'' (by decide) s h (hb hbs)

/-- the backslash hypothesis is needed: `a\n` written for MySQL / BigQuery is read back as `a` + newline -/
theorem backslash_counterexample : readBack '\'' true (write '\'' ['a', '\\', 'n']) = some ['a', '\n'] := by decide

/-- which dialects those are, from the generated table -/
theorem backslash_dialects : (dialects.filter (·.backslash)).map (·.name) = ["mysql", "bigquery"] := by decide +kernel

/-- the hypothesis `Clean` is met by every string without the quote character (ordinary names and texts), whatever precedes it -/
theorem clean_of_no_quote (q : Char) : ∀ (s : List Char) (p : Char), (∀ c ∈ s, c ≠ q) → Clean q p s
  | [], _, _ => trivial
  | c :: rest, _, h =>
    ⟨fun hc => absurd hc (h c List.mem_cons_self), clean_of_no_quote q rest c (fun x hx => h x (List.mem_cons_of_mem _ hx))⟩

/-- **No two names or texts are written alike**: on the strings the escaping handles, the writer is injective — two different
identifiers (or literals) never become the same token, in any dialect. -/
theorem write_injective (q : Char) (s t : List Char) (hs : Clean q (Char.ofNat 0) s) (ht : Clean q (Char.ofNat 0) t)
    (h : write q s = write q t) : s = t := by
  have h1 := write_read q s hs
  rw [h, write_read q t ht] at h1
  exact (Option.some.inj h1).symm

/-- quote-free strings in particular: every dialect's identifier quoting is injective and readable back on them -/
theorem ident_plain_round_trip : ∀ d ∈ dialects, ∀ s, (∀ c ∈ s, c ≠ d.write) → readBack d.write false (write d.write s) = some s :=
  fun d hd s h => ident_round_trip d hd s (clean_of_no_quote d.write s _ h)

/-- Non-vacuity: a reserved word and a name with an embedded quote meet the hypothesis and are written as expected. -/
example : Clean '`' (Char.ofNat 0) "we`ird".toList ∧ write '`' "we`ird".toList = "`we``ird`".toList ∧ write '"' "select".toList = "\"select\"".toList := by
  refine ⟨by simp [Clean], by decide +kernel, by decide +kernel⟩

end Qrlew.C17
