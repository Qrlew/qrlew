import QrlewModel.Lemmas.Monotone
/-!
# C06 — range propagation is sound (partitioned-monotone functions, integer arithmetic, integer sum)

The corner theorems are generic: any function, any (convex) partition on which it is monotone or
antitone in each coordinate separately (the direction may depend on the other coordinate), any
argument set, any capacity ≥ 2 — including the case where the intersection with a partition has been
collapsed to its hull.  The instances are the saturating integer `+`, `-`, `*` of `function.rs` with the
partitions declared there, and the integer `sum` aggregate on a single-interval element type.
-/
namespace Qrlew.C06
open Qrlew

theorem good_single (cap : Nat) (hc : 2 ≤ cap) (p : Int × Int) (hp : p.1 ≤ p.2) : Good cap [p] := Good.single hc hp

/-- membership in the intersection with a single partition interval, with the box bounds -/
theorem mem_inter_single (cap : Nat) (hc : 2 ≤ cap) (s : Ivs) (hs : Good cap s) (p : Int × Int) (hp : p.1 ≤ p.2)
    (x : Int) (hx : Mem x s) (hxp : p.1 ≤ x ∧ x ≤ p.2) :
    ∃ ab ∈ inter cap s [p], (ab.1 ≤ x ∧ x ≤ ab.2) ∧ p.1 ≤ ab.1 ∧ ab.2 ≤ p.2 := by
  obtain ⟨ab, hab, hx'⟩ := mem_inter hc hs (Good.single hc hp) hx ⟨p, List.mem_singleton.mpr rfl, hxp⟩
  exact ⟨ab, hab, hx', inter_single_within cap s p.1 p.2 ab hab⟩

/-- **Corner theorem, arity 1.** -/
theorem pm1_sound (cap : Nat) (hc : 2 ≤ cap) (parts : List (Int × Int)) (f : Int → Int) (s : Ivs)
    (hs : Good cap s) (hparts : ∀ p ∈ parts, p.1 ≤ p.2) (hmono : ∀ p ∈ parts, DirMono f p.1 p.2)
    (x : Int) (hx : Mem x s) (hdom : ∃ p ∈ parts, p.1 ≤ x ∧ x ≤ p.2) :
    Mem (f x) (pmImage1 cap parts f s) := by
  obtain ⟨p, hp, hxp⟩ := hdom
  obtain ⟨ab, hab, hxab, hbox⟩ := mem_inter_single cap hc s hs p (hparts p hp) x hx hxp
  refine mem_fromIntervals hc ?_ ⟨_, List.mem_flatMap.mpr ⟨p, hp, List.mem_map.mpr ⟨ab, hab, rfl⟩⟩,
    dirMono_between f p.1 p.2 ab.1 ab.2 x (hmono p hp) hbox.1 hxab.1 hxab.2 hbox.2⟩
  intro q hq
  simp only [List.mem_flatMap, List.mem_map] at hq
  obtain ⟨_, _, _, _, rfl⟩ := hq
  exact min_le_max ..

/-- coordinate-wise monotonicity of `f` on the box `p` (direction may depend on the other coordinate) -/
def BoxMono (f : Int → Int → Int) (p : (Int × Int) × (Int × Int)) : Prop :=
  (∀ y, p.2.1 ≤ y → y ≤ p.2.2 → DirMono (fun x => f x y) p.1.1 p.1.2) ∧
  (∀ x, p.1.1 ≤ x → x ≤ p.1.2 → DirMono (fun y => f x y) p.2.1 p.2.2)

/-- the corner hulls `pmImage2` collects are ordered pairs -/
theorem pmImage2_ordered (cap : Nat) (parts : List ((Int × Int) × (Int × Int))) (f : Int → Int → Int) (s1 s2 : Ivs) :
    ∀ q ∈ parts.flatMap (fun p => (inter cap s2 [p.2]).flatMap fun cd => (inter cap s1 [p.1]).map fun ab =>
      (min4 (f ab.1 cd.1) (f ab.1 cd.2) (f ab.2 cd.1) (f ab.2 cd.2),
       max4 (f ab.1 cd.1) (f ab.1 cd.2) (f ab.2 cd.1) (f ab.2 cd.2))), q.1 ≤ q.2 := by
  intro q hq
  simp only [List.mem_flatMap, List.mem_map] at hq
  obtain ⟨_, _, _, _, _, _, rfl⟩ := hq
  exact min4_le_max4 ..

/-- **Corner theorem, arity 2**: the value at any point of a box lies in the hull of the 4 corner values. -/
theorem pm2_sound (cap : Nat) (hc : 2 ≤ cap) (parts : List ((Int × Int) × (Int × Int))) (f : Int → Int → Int)
    (s1 s2 : Ivs) (hs1 : Good cap s1) (hs2 : Good cap s2)
    (hparts : ∀ p ∈ parts, p.1.1 ≤ p.1.2 ∧ p.2.1 ≤ p.2.2) (hmono : ∀ p ∈ parts, BoxMono f p)
    (x y : Int) (hx : Mem x s1) (hy : Mem y s2)
    (hdom : ∃ p ∈ parts, (p.1.1 ≤ x ∧ x ≤ p.1.2) ∧ (p.2.1 ≤ y ∧ y ≤ p.2.2)) :
    Mem (f x y) (pmImage2 cap parts f s1 s2) := by
  obtain ⟨p, hp, hxp, hyp⟩ := hdom
  obtain ⟨ab, hab, hxab, hbx⟩ := mem_inter_single cap hc s1 hs1 p.1 (hparts p hp).1 x hx hxp
  obtain ⟨cd, hcd, hycd, hby⟩ := mem_inter_single cap hc s2 hs2 p.2 (hparts p hp).2 y hy hyp
  have hm := hmono p hp
  have hab' : ab.1 ≤ ab.2 := Int.le_trans hxab.1 hxab.2
  -- first move along x at height y, then along y at the two x-corners
  exact mem_fromIntervals hc (pmImage2_ordered cap parts f s1 s2) ⟨_, List.mem_flatMap.mpr ⟨p, hp, List.mem_flatMap.mpr
    ⟨cd, hcd, List.mem_map.mpr ⟨ab, hab, rfl⟩⟩⟩, between4
      (dirMono_between (fun x => f x y) p.1.1 p.1.2 ab.1 ab.2 x (hm.1 y hyp.1 hyp.2) hbx.1 hxab.1 hxab.2 hbx.2)
      (dirMono_between (fun y => f ab.1 y) p.2.1 p.2.2 cd.1 cd.2 y (hm.2 ab.1 hbx.1 (Int.le_trans hab' hbx.2)) hby.1 hycd.1 hycd.2 hby.2)
      (dirMono_between (fun y => f ab.2 y) p.2.1 p.2.2 cd.1 cd.2 y (hm.2 ab.2 (Int.le_trans hbx.1 hab') hbx.2) hby.1 hycd.1 hycd.2 hby.2)⟩

theorem plusParts_ok : ∀ p ∈ plusParts, p.1.1 ≤ p.1.2 ∧ p.2.1 ≤ p.2.2 := by decide

/-- the corner theorem for the functions declared with the single partition "the whole plane" (`+`, `-`, `greatest`, `least`) -/
theorem pm2_sound_full (cap : Nat) (hc : 2 ≤ cap) (f : Int → Int → Int) (hf : BoxMono f (fullI, fullI)) (s1 s2 : Ivs)
    (h1 : Good cap s1) (h2 : Good cap s2) (x y : Int) (hx : Mem x s1) (hy : Mem y s2)
    (hxr : i64Min ≤ x ∧ x ≤ i64Max) (hyr : i64Min ≤ y ∧ y ≤ i64Max) : Mem (f x y) (pmImage2 cap plusParts f s1 s2) :=
  pm2_sound cap hc plusParts f s1 s2 h1 h2 plusParts_ok (fun _ hp => List.mem_singleton.mp hp ▸ hf) x y hx hy
    ⟨_, List.mem_singleton.mpr rfl, hxr, hyr⟩

/-! ### instances: the integer implementations of `function.rs` -/

theorem sat_mono {u v : Int} (h : u ≤ v) : sat u ≤ sat v := max_mono (Int.le_refl _) (min_mono (Int.le_refl _) h)

theorem plus_boxMono : BoxMono plusI (fullI, fullI) :=
  ⟨fun _ _ _ => Or.inl fun _ _ _ huv _ => sat_mono (Int.add_le_add_right huv _),
   fun _ _ _ => Or.inl fun _ _ _ huv _ => sat_mono (Int.add_le_add_left huv _)⟩

theorem minus_boxMono : BoxMono minusI (fullI, fullI) :=
  ⟨fun _ _ _ => Or.inl fun _ _ _ huv _ => sat_mono (Int.sub_le_sub_right huv _),
   fun _ _ _ => Or.inr fun _ _ _ huv _ => sat_mono (Int.sub_le_sub_left huv _)⟩

/-- a product is monotone or antitone in each factor, according to the sign of the other one: on *every* box, whether or not
it straddles zero -/
theorem mulI_boxMono (p : (Int × Int) × (Int × Int)) : BoxMono mulI p := by
  refine ⟨fun y _ _ => ?_, fun x _ _ => ?_⟩
  · rcases Int.le_total 0 y with hy | hy
    · exact Or.inl fun _ _ _ huv _ => sat_mono (Int.mul_le_mul_of_nonneg_right huv hy)
    · exact Or.inr fun _ _ _ huv _ => sat_mono (Int.mul_le_mul_of_nonpos_right huv hy)
  · rcases Int.le_total 0 x with hx | hx
    · exact Or.inl fun _ _ _ huv _ => sat_mono (Int.mul_le_mul_of_nonneg_left huv hx)
    · exact Or.inr fun _ _ _ huv _ => sat_mono (Int.mul_le_mul_of_nonpos_left hx huv)

theorem mul_boxMono : ∀ p ∈ mulParts, BoxMono mulI p := fun p _ => mulI_boxMono p

/-- every pair of i64 values lies in one of the four quadrants -/
theorem mul_cover (x y : Int) (hx : i64Min ≤ x ∧ x ≤ i64Max) (hy : i64Min ≤ y ∧ y ≤ i64Max) :
    ∃ p ∈ mulParts, (p.1.1 ≤ x ∧ x ≤ p.1.2) ∧ (p.2.1 ≤ y ∧ y ≤ p.2.2) := by
  rcases Int.le_total 0 x with hx0 | hx0 <;> rcases Int.le_total 0 y with hy0 | hy0
  · exact ⟨(geZero, geZero), by decide, ⟨hx0, hx.2⟩, ⟨hy0, hy.2⟩⟩
  · exact ⟨(geZero, leZero), by decide, ⟨hx0, hx.2⟩, ⟨hy.1, hy0⟩⟩
  · exact ⟨(leZero, geZero), by decide, ⟨hx.1, hx0⟩, ⟨hy0, hy.2⟩⟩
  · exact ⟨(leZero, leZero), by decide, ⟨hx.1, hx0⟩, ⟨hy.1, hy0⟩⟩

/-- **`+` on integers**: for all argument sets and all i64 arguments in them, the propagated range contains `x + y` (saturating). -/
theorem plus_sound (cap : Nat) (hc : 2 ≤ cap) (s1 s2 : Ivs) (h1 : Good cap s1) (h2 : Good cap s2) (x y : Int)
    (hx : Mem x s1) (hy : Mem y s2) (hxr : i64Min ≤ x ∧ x ≤ i64Max) (hyr : i64Min ≤ y ∧ y ≤ i64Max) :
    Mem (plusI x y) (plusImage cap s1 s2) :=
  pm2_sound_full cap hc plusI plus_boxMono s1 s2 h1 h2 x y hx hy hxr hyr

theorem minus_sound (cap : Nat) (hc : 2 ≤ cap) (s1 s2 : Ivs) (h1 : Good cap s1) (h2 : Good cap s2) (x y : Int)
    (hx : Mem x s1) (hy : Mem y s2) (hxr : i64Min ≤ x ∧ x ≤ i64Max) (hyr : i64Min ≤ y ∧ y ≤ i64Max) :
    Mem (minusI x y) (minusImage cap s1 s2) :=
  pm2_sound_full cap hc minusI minus_boxMono s1 s2 h1 h2 x y hx hy hxr hyr

/-- **`*` on integers** with the four-quadrant partition of `function.rs`. -/
theorem mul_sound (cap : Nat) (hc : 2 ≤ cap) (s1 s2 : Ivs) (h1 : Good cap s1) (h2 : Good cap s2) (x y : Int)
    (hx : Mem x s1) (hy : Mem y s2) (hxr : i64Min ≤ x ∧ x ≤ i64Max) (hyr : i64Min ≤ y ∧ y ≤ i64Max) :
    Mem (mulI x y) (mulImage cap s1 s2) :=
  pm2_sound cap hc mulParts mulI s1 s2 h1 h2 (by decide) mul_boxMono x y hx hy (mul_cover x y hxr hyr)

/-! ### integer `sum`: bounds of the sum of a list; regression of the repaired union-of-intervals defect -/

theorem sum_bounds (xs : List Int) (a b : Int) (h : ∀ x ∈ xs, a ≤ x ∧ x ≤ b) :
    (xs.length : Int) * a ≤ xs.sum ∧ xs.sum ≤ (xs.length : Int) * b := by
  induction xs with
  | nil => simp
  | cons x rest ih =>
    have ⟨hx, hr⟩ := List.forall_mem_cons.1 h
    have := ih hr
    rw [List.length_cons, List.sum_cons, Int.natCast_succ, Int.add_mul, Int.add_mul, Int.one_mul, Int.one_mul]
    omega

/-- Regression for the repaired defect (before the fix the image of elements {1, 10} × size {2} was {2, 20}
and excluded 1 + 10 = 11; the witness is kept in corpus/C06 and must now pass). -/
theorem sum_union_regression :
    Mem ([1, 10].sum) (sumImage 128 [(1, 1), (10, 10)] [(2, 2)]) ∧
    Mem ([4, 4, 2].sum) (sumImage 128 [(2, 2), (4, 4)] [(3, 3)]) := by decide +kernel

/-- Non-vacuity: the corner hull on a box that straddles two quadrants of `*`. -/
example : mulImage 128 [(-2, 3)] [(4, 5)] = [(-10, 15)] := by decide +kernel

end Qrlew.C06
