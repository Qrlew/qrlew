import QrlewModel.Model.Rel
import QrlewModel.Lemmas.Lists
/-!
# C07 — declared size bounds contain what execution produces (size lemmas)

For every bag (any number of rows, duplicates, empty inputs): LIMIT/OFFSET arithmetic of a Map, set
operations, and inner joins (product bound; `max` bound when a join key is unique).  The bound the code
declares for *outer* joins is refuted by a kernel-checked counterexample (known finding).
-/
namespace Qrlew.C07
open Qrlew.Rel
variable {α β κ : Type}

/-- WHERE / OFFSET / LIMIT return a sub-bag of their input -/
theorem mapRows_sublist (p : α → Bool) (off lim : Option Nat) (b : List α) : (mapRows p off lim b).Sublist b := by
  unfold mapRows
  cases off <;> cases lim
  · exact List.filter_sublist
  · exact (List.take_sublist ..).trans List.filter_sublist
  · exact (List.drop_sublist ..).trans List.filter_sublist
  · exact (List.take_sublist ..).trans ((List.drop_sublist ..).trans List.filter_sublist)

/-- `Map::size` applied to the number of rows that pass the WHERE is the number of rows returned -/
theorem mapRows_length (p : α → Bool) (offset limit : Option Nat) (b : List α) :
    (mapRows p offset limit b).length = mapSizeMax (b.filter p).length offset limit := by
  unfold mapRows mapSizeMax
  cases offset <;> cases limit <;> simp only [List.length_take, List.length_drop]

/-- the declared bound of a Map is monotone in the bound of its input (a looser input bound never yields a tighter output bound) -/
theorem mapSizeMax_mono (a b : Nat) (h : a ≤ b) (offset limit : Option Nat) : mapSizeMax a offset limit ≤ mapSizeMax b offset limit := by
  unfold mapSizeMax
  -- first the OFFSET, then the LIMIT: each step is monotone
  have ho : (match offset with | some o => a - o | none => a) ≤ (match offset with | some o => b - o | none => b) := by
    cases offset
    · exact h
    · exact Nat.sub_le_sub_right h _
  cases limit
  · exact ho
  · exact Nat.le_min.mpr ⟨Nat.min_le_left .., Nat.le_trans (Nat.min_le_right ..) ho⟩

/-- **Map::size**: filter, then OFFSET, then LIMIT never yields more rows than declared. -/
theorem map_size (p : α → Bool) (offset limit : Option Nat) (b : List α) (inputMax : Nat) (h : b.length ≤ inputMax) :
    (mapRows p offset limit b).length ≤ mapSizeMax inputMax offset limit :=
  mapRows_length p offset limit b ▸ mapSizeMax_mono _ _ (Nat.le_trans (List.length_filter_le p b) h) offset limit

theorem union_all_size (L R : List α) (l r : Nat) (hl : L.length ≤ l) (hr : R.length ≤ r) :
    (L ++ R).length ≤ unionMax l r := List.length_append ▸ Nat.add_le_add hl hr

/-- UNION / INTERSECT / EXCEPT with duplicate elimination return a sub-bag of what the ALL forms return -/
theorem union_distinct_size (U L R : List α) (l r : Nat) (hl : L.length ≤ l) (hr : R.length ≤ r)
    (hU : U.Sublist (L ++ R)) : U.length ≤ unionMax l r :=
  Nat.le_trans hU.length_le (union_all_size L R l r hl hr)

theorem intersect_size (U L R : List α) (l r : Nat) (hl : L.length ≤ l) (hr : R.length ≤ r)
    (h1 : U.Sublist L) (h2 : U.length ≤ R.length) : U.length ≤ intersectMax l r :=
  Nat.le_min.mpr ⟨Nat.le_trans h1.length_le hl, Nat.le_trans h2 hr⟩

theorem except_size [DecidableEq α] (L R : List α) (l r : Nat) (hl : L.length ≤ l) :
    (L.filter fun a => !R.contains a).length ≤ exceptMax l r :=
  Nat.le_trans (List.length_filter_le ..) hl

theorem joinOn_cons [DecidableEq κ] (kl : α → κ) (kr : β → κ) (a : α) (t : List α) (R : List β) :
    joinOn kl kr (a :: t) R = ((R.filter fun b => kl a == kr b).map fun b => (a, b)) ++ joinOn kl kr t R := rfl

/-- inner join: product bound -/
theorem join_size_product [DecidableEq κ] (kl : α → κ) (kr : β → κ) (L : List α) (R : List β) :
    (joinOn kl kr L R).length ≤ L.length * R.length := by
  induction L with
  | nil => exact Nat.zero_le _
  | cons a t ih =>
    rw [joinOn_cons, List.length_append, List.length_map, List.length_cons, Nat.succ_mul, Nat.add_comm]
    exact Nat.add_le_add ih (List.length_filter_le ..)

/-- at most one row of a bag with pairwise distinct keys has a given key -/
theorem filter_key_le_one [DecidableEq κ] (kr : β → κ) (R : List β) (h : (R.map kr).Nodup) (k : κ) :
    (R.filter fun b => k == kr b).length ≤ 1 := by
  induction R with
  | nil => simp
  | cons b t ih =>
    rw [List.map_cons, List.nodup_cons] at h
    rw [List.filter_cons]
    split
    · -- `b` has the key: no later row has it
      rename_i hk
      rw [List.length_cons, List.filter_eq_nil_iff.mpr]
      · exact Nat.le_refl 1
      · exact fun b' hb' hkb => h.1 (List.mem_map.mpr ⟨b', hb', by rw [← beq_iff_eq.mp hk, beq_iff_eq.mp hkb]⟩)
    · exact ih h.2

/-- with a unique key on the right every left row is matched at most once: the left parts of the pairs are a sub-list of `L` -/
theorem joinOn_fst_sublist [DecidableEq κ] (kl : α → κ) (kr : β → κ) (L : List α) (R : List β) (h : (R.map kr).Nodup) :
    ((joinOn kl kr L R).map (·.1)).Sublist L := by
  induction L with
  | nil => exact .slnil
  | cons a t ih =>
    rw [joinOn_cons, List.map_append]
    match R.filter (fun b => kl a == kr b), filter_key_le_one kr R h (kl a) with
    | [], _ => exact ih.cons a
    | [_], _ => exact ih.cons_cons a

theorem joinOn_length_le [DecidableEq κ] (kl : α → κ) (kr : β → κ) (L : List α) (R : List β) (h : (R.map kr).Nodup) :
    (joinOn kl kr L R).length ≤ L.length :=
  List.length_map (Prod.fst : α × β → α) ▸ (joinOn_fst_sublist kl kr L R h).length_le

/-- inner join with a unique key on the right: at most one match per left row, hence ≤ |L| ≤ max(|L|, |R|) -/
theorem join_size_unique [DecidableEq κ] (kl : α → κ) (kr : β → κ) (L : List α) (R : List β) (h : (R.map kr).Nodup) :
    (joinOn kl kr L R).length ≤ joinSizeUnique L.length R.length :=
  Nat.le_trans (joinOn_length_le kl kr L R h) (Nat.le_max_left ..)

/-- `Reduce::size`: a GROUP BY returns at most one row per input row (one per distinct key) -/
theorem reduce_size [DecidableEq κ] (key : α → κ) (b : List α) (inputMax : Nat) (h : b.length ≤ inputMax) :
    ((b.map key).eraseDups).length ≤ inputMax :=
  Nat.le_trans (Lists.eraseDups_length_le _) (List.length_map key ▸ h)

/-- the same bound is FALSE for a LEFT OUTER join (unique key on the left): L = {1,2,3}, R = {1,1,1,1} gives 6 rows > 4
(observed on the real code: declared int[0 10], 11 rows) -/
theorem left_join_unique_bound_counterexample :
    ¬ ((leftJoinOn (fun (a : Nat) => a) (fun (b : Nat) => b) [1, 2, 3] [1, 1, 1, 1]).length ≤ joinSizeUnique 3 4) := by decide

/-- the rows one left row contributes to a LEFT OUTER join: its matches, or itself NULL-padded -/
theorem leftJoinOn_cons [DecidableEq κ] (kl : α → κ) (kr : β → κ) (a : α) (t : List α) (R : List β) :
    leftJoinOn kl kr (a :: t) R = (if (R.filter fun b => kl a == kr b).isEmpty then [(a, none)]
      else (R.filter fun b => kl a == kr b).map fun b => (a, some b)) ++ leftJoinOn kl kr t R := rfl

/-- … as many as it has matches, and one when it has none -/
theorem leftRow_length {γ δ : Type} (m : List γ) (x : δ) (f : γ → δ) :
    (if m.isEmpty then [x] else m.map f).length = max 1 m.length := by
  cases m with
  | nil => rfl
  | cons b s => exact (List.length_map f).trans (Nat.max_eq_right (Nat.le_add_left 1 _)).symm

/-- the true bound for LEFT OUTER joins: matched pairs plus the left rows -/
theorem left_join_size [DecidableEq κ] (kl : α → κ) (kr : β → κ) (L : List α) (R : List β) :
    (leftJoinOn kl kr L R).length ≤ L.length * R.length + L.length := by
  induction L with
  | nil => exact Nat.zero_le _
  | cons a t ih =>
    rw [leftJoinOn_cons, List.length_append, leftRow_length, List.length_cons, Nat.succ_mul]
    have : max 1 (R.filter fun b => kl a == kr b).length ≤ R.length + 1 :=
      Nat.max_le.mpr ⟨Nat.le_add_left .., Nat.le_succ_of_le (List.length_filter_le ..)⟩
    exact Nat.le_trans (Nat.add_le_add this ih) (by omega)

/-- … and the sharp one when the key is unique on the *right*: a LEFT OUTER join then returns exactly one row per left row
(so the bound `max(|L|, |R|)` that `Join::size` declares is sound for that orientation — the recorded finding is the other one). -/
theorem left_join_size_unique_right [DecidableEq κ] (kl : α → κ) (kr : β → κ) (L : List α) (R : List β) (h : (R.map kr).Nodup) :
    (leftJoinOn kl kr L R).length = L.length := by
  induction L with
  | nil => rfl
  | cons a t ih =>
    rw [leftJoinOn_cons, List.length_append, leftRow_length, ih, Nat.max_eq_left (filter_key_le_one kr R h (kl a)),
      List.length_cons, Nat.add_comm]

theorem left_join_unique_right_within_declared [DecidableEq κ] (kl : α → κ) (kr : β → κ) (L : List α) (R : List β) (h : (R.map kr).Nodup) :
    (leftJoinOn kl kr L R).length ≤ joinSizeUnique L.length R.length := by
  rw [left_join_size_unique_right kl kr L R h]; exact Nat.le_max_left ..

/-- **Stacked Maps**: the bound declared for a Map over a Map holds for the rows of the composition, for any two WHEREs, OFFSETs and
LIMITs (the inner declared bound is all the outer node knows about its input). -/
theorem map_map_size (p q : α → Bool) (o1 l1 o2 l2 : Option Nat) (b : List α) (inputMax : Nat) (h : b.length ≤ inputMax) :
    (mapRows q o2 l2 (mapRows p o1 l1 b)).length ≤ mapSizeMax (mapSizeMax inputMax o1 l1) o2 l2 :=
  map_size q o2 l2 _ _ (map_size p o1 l1 b inputMax h)

/-- Non-vacuity: OFFSET beyond the input. -/
example : mapRows (fun (x : Nat) => x > 1) (some 5) (some 2) [1, 2, 3] = [] ∧ mapSizeMax 3 (some 5) (some 2) = 0 := by decide

end Qrlew.C07
