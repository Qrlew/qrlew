import QrlewModel.Props.C09Agg
/-!
# C01 — sensitivity of the sums the DP rewriting noises, stated on the pipeline model

`Qrlew.DpAgg.clippedSums` is the model of what `differentially_private_aggregates` computes before adding noise for one derived
column (compared with the real rewriting by the `dpagg` stream).  `dp_sensitivity`: for any table — any number of rows per unit,
NULLs, any layout of groups, values of any magnitude — deleting all rows of one privacy unit moves the vector of clipped sums
(over all groups) by at most the clipping constant `c` in Euclidean norm: the bound the noise is calibrated to is enforced by the
clipping, not assumed of the data.
-/
namespace Qrlew.C01
open Qrlew Qrlew.Clip Qrlew.DpAgg Qrlew.C09

/-- the table without the rows of unit `u` -/
def without (u : Nat) (rows : List (Row ℝ)) : List (Row ℝ) := rows.filter fun r => !(r.1 == u)

theorem cell_without_ne (f : Row ℝ → ℝ) (rows : List (Row ℝ)) (u v j : Nat) (h : v ≠ u) :
    cell realOps f (without u rows) v j = cell realOps f rows v j := by
  rw [cell_real, cell_real, without, List.filter_filter]
  -- a row of unit `v` is not a row of unit `u`
  refine congrArg (fun l => (l.map f).sum) (List.filter_congr fun r _ => Bool.and_eq_left_iff_imp.mpr fun hr => ?_)
  rw [Bool.and_eq_true, beq_iff_eq] at hr
  rw [hr.1, Bool.not_eq_true', beq_eq_false_iff_ne]; exact h

theorem cell_without_self (f : Row ℝ → ℝ) (rows : List (Row ℝ)) (u j : Nat) :
    cell realOps f (without u rows) u j = 0 := by
  rw [cell_real, without, List.filter_filter, List.filter_eq_nil_iff.mpr fun r _ => ?_]; · rfl
  cases r.1 == u <;> simp

theorem unitVec_without_ne (g : Nat) (f : Row ℝ → ℝ) (rows : List (Row ℝ)) (u v : Nat) (h : v ≠ u) :
    unitVec realOps g f (without u rows) v = unitVec realOps g f rows v :=
  List.map_congr_left fun j _ => cell_without_ne f rows u v j h

theorem unitVec_without_self (g : Nat) (f : Row ℝ → ℝ) (rows : List (Row ℝ)) (u : Nat) :
    unitVec realOps g f (without u rows) u = List.replicate g 0 := by
  rw [unitVec, List.map_congr_left fun j _ => cell_without_self f rows u j, List.map_const', List.length_range]

theorem unitVec_length (g : Nat) (f : Row ℝ → ℝ) (rows : List (Row ℝ)) (v : Nat) : (unitVec realOps g f rows v).length = g := by
  rw [unitVec, List.length_map, List.length_range]

/-- a unit without rows contributes nothing -/
theorem scaled_zero (g : Nat) (c : ℝ) : scaled realOps rz c (List.replicate g 0) = List.replicate g 0 := by
  rw [scaled, List.map_replicate, realOps_mul, zero_mul]

theorem vadd_zero_left (g : Nat) (v : List ℝ) (h : v.length = g) : vadd realOps (List.replicate g 0) v = v := by
  subst h
  induction v with
  | nil => rfl
  | cons x t ih => exact congrArg₂ List.cons (zero_add x) ih

theorem total_zero_unit (g : Nat) (c : ℝ) (us₁ us₂ : List (List ℝ)) (h₁ : ∀ w ∈ us₁, w.length = g) (h₂ : ∀ w ∈ us₂, w.length = g) :
    total realOps rz g c (us₁ ++ List.replicate g 0 :: us₂) = total realOps rz g c (us₁ ++ us₂) := by
  rw [total_insert, scaled_zero, vadd_zero_left g _ (total_length g c _ (List.forall_mem_append.mpr ⟨h₁, h₂⟩))]

/-- **C01 on the pipeline model**: deleting one privacy unit moves the clipped sums of a derived column by at most `c`. -/
theorem dp_sensitivity (nU g : Nat) (f : Row ℝ → ℝ) (c : ℝ) (hc : 0 ≤ c) (rows : List (Row ℝ)) (u : Nat) (hu : u < nU) :
    normSq realOps (vsub realOps (clippedSums realOps rz nU g f c rows) (clippedSums realOps rz nU g f c (without u rows))) ≤ c * c := by
  unfold clippedSums
  -- the units before `u`, `u` itself, the units after it: only `u`'s vector changes, into the zero vector
  obtain ⟨s, t, hst⟩ := List.append_of_mem (List.mem_range.mpr hu)
  have hne : ∀ v ∈ s ++ t, v ≠ u := fun v hv e =>
    (List.nodup_cons.mp (List.nodup_middle.mp (hst ▸ List.nodup_range))).1 (e ▸ hv)
  have e : ∀ l : List Nat, (∀ v ∈ l, v ≠ u) →
      l.map (unitVec realOps g f (without u rows)) = l.map (unitVec realOps g f rows) := fun l hl =>
    List.map_congr_left fun v hv => unitVec_without_ne g f rows u v (hl v hv)
  have hl : ∀ l : List Nat, ∀ w ∈ l.map (unitVec realOps g f rows), w.length = g := fun l =>
    List.forall_mem_map.mpr fun v _ => unitVec_length g f rows v
  rw [hst, List.map_append, List.map_cons, List.map_append, List.map_cons,
    e s fun v hv => hne v (List.mem_append_left _ hv), e t fun v hv => hne v (List.mem_append_right _ hv),
    unitVec_without_self, total_zero_unit g c _ _ (hl s) (hl t)]
  exact sensitivity g c hc _ _ _ (unitVec_length g f rows u) (hl s) (hl t)

/-- non-vacuity: deleting the only unit (three rows, clipping constant 1) leaves the zero vector, the full table gives `[1]` -/
example : without 0 ([(0, 0, some 1), (0, 0, some 1), (0, 0, some 1)] : List (Row ℝ)) = [] ∧
    clippedSums realOps rz 1 1 (one realOps) 1 [(0, 0, some 1), (0, 0, some 1), (0, 0, some 1)] = [1] :=
  ⟨by decide, count_clipped_counterexample⟩

end Qrlew.C01
