import QrlewModel.Props.C03
import QrlewModel.Model.DpReduce
/-!
# C03 — the accounting of one whole DP aggregation

`Qrlew.DpReduce` is the model of what `Reduce::differentially_private` hands to each sum (σ) and returns as event, for any number
of DISTINCT-split groups and of sums per group (compared with the real rewriting by the `dpquery` stream).

* `event_leaves` (any number type): the returned event records the key release, if one took place, followed by exactly one entry
  per sum whose σ is positive, in order — whatever the nesting `compose` builds.
* `reduce_accounting` (over ℝ): for valid parameters every sum with a positive clipping bound has a positive σ, hence an entry, and
  the multiplier recorded in that entry is at most σ/C; the shares of ε handed to the key release and to the sums add up to ε.
-/
namespace Qrlew.C03
open Qrlew Qrlew.DpEvent Qrlew.DpReduce

section generic
variable {K : Type} (o : NumOps K) (z pos : K → Bool)

/-- the entries one group contributes: one per sum with positive σ -/
def groupEntries (epsG deltaG : K) (bounds : List K) : List (DpEvent K) :=
  leavesL z ((Budget.sigmas o epsG deltaG bounds).map fun s =>
    if pos s then DpEvent.gaussian (Budget.recordedMultiplier o epsG deltaG) else .noOp)

theorem leaves_groupEvent (epsG deltaG : K) (bounds : List K) :
    leaves z (groupEvent o z pos epsG deltaG bounds) = groupEntries o z pos epsG deltaG bounds :=
  leaves_collect z _

theorem leavesL_map_groupEvent (epsG deltaG : K) (groups : List (List K)) :
    leavesL z (groups.map (groupEvent o z pos epsG deltaG)) = groups.flatMap (groupEntries o z pos epsG deltaG) := by
  induction groups with
  | nil => rfl
  | cons g gs ih => rw [List.map_cons, List.flatMap_cons, ← ih, ← leaves_groupEvent]; rfl

/-- **The event of a whole DP aggregation**: the key release (when thresholding was used) and then the entries of the groups in
order; nothing else, nothing dropped but no-ops. -/
theorem event_leaves (eps delta share : K) (tauUsed : Bool) (groups : List (List K)) :
    leaves z (event o z pos eps delta share tauUsed groups) =
      leaves z (if tauUsed then DpEvent.epsilonDelta (o.mul eps share) (o.mul delta share) else .noOp) ++
      groups.flatMap (groupEntries o z pos (groupBudget o eps delta share tauUsed groups.length).1
        (groupBudget o eps delta share tauUsed groups.length).2) := by
  rw [event, leaves_compose, leaves_compose]
  refine congrArg (leaves z _ ++ ·) ?_
  -- `Iterator::reduce` over the groups' events records what collecting them would
  cases groups with
  | nil => rfl
  | cons g gs => rw [List.map_cons, leaves_foldl_compose, leaves_groupEvent, leavesL_map_groupEvent, List.flatMap_cons]

end generic

/-! ### over ℝ -/

open Budget

noncomputable def rzero : ℝ → Bool := fun x => decide (x = 0)
noncomputable def rpos : ℝ → Bool := fun x => decide (0 < x)

theorem noiseMultiplier_pos (e d : ℝ) (he : 0 < e) (hd : 0 < d) (hd1 : d ≤ 1) : 0 < noiseMultiplier realOps e d := by
  rw [noiseMultiplier_real]
  refine lt_max_of_lt_right (div_pos (Real.sqrt_pos.mpr (mul_pos two_pos (Real.log_pos ?_))) he)
  exact (one_lt_div hd).mpr (hd1.trans_lt one_lt_c125)

/-- a sum with a positive clipping bound receives a positive σ, and the multiplier recorded for it is at most σ/C -/
theorem sum_accounted (n : ℕ) (hn : 1 ≤ n) (e d c : ℝ) (he : 0 < e) (hd : 0 < d) (hd1 : d ≤ 1) (hc : 0 < c) :
    0 < gaussianNoise realOps (e / n) (d / n) c ∧
      recordedMultiplier realOps e d ≤ gaussianNoise realOps (e / n) (d / n) c / c := by
  have hn1 : (1 : ℝ) ≤ n := Nat.one_le_cast.mpr hn
  have hnpos : (0 : ℝ) < n := one_pos.trans_le hn1
  have hm := noiseMultiplier_pos (e / n) (d / n) (div_pos he hnpos) (div_pos hd hnpos) ((div_le_one hnpos).mpr (hd1.trans hn1))
  rw [sigma_eq _ _ _ hc.le, mul_div_cancel_right₀ _ hc.ne']
  exact ⟨mul_pos hm hc, recorded_le_actual n hn e d he hd⟩

/-- with valid parameters a group whose `n ≥ 1` bounds are all positive contributes exactly `n` Gaussian entries -/
theorem group_entries_all (e d : ℝ) (he : 0 < e) (hd : 0 < d) (hd1 : d ≤ 1) (bounds : List ℝ) (hb : ∀ c ∈ bounds, 0 < c) :
    groupEntries realOps rzero rpos e d bounds = List.replicate bounds.length (.gaussian (recordedMultiplier realOps e d)) := by
  -- every σ is positive, so every sum gets the same entry …
  have hrep : ((Budget.sigmas realOps e d bounds).map fun s =>
      if rpos s = true then DpEvent.gaussian (recordedMultiplier realOps e d) else .noOp) =
      List.replicate bounds.length (.gaussian (recordedMultiplier realOps e d)) := by
    rw [Budget.sigmas, List.map_map, List.eq_replicate_iff]
    exact ⟨List.length_map _, List.forall_mem_map.mpr fun c hc =>
      if_pos (decide_eq_true (sum_accounted bounds.length (List.length_pos_of_mem hc) e d c he hd hd1 (hb c hc)).1)⟩
  -- … and that entry is not a no-op
  rw [groupEntries, hrep]
  exact leavesL_replicate_gaussian rzero _ (decide_eq_false (noiseMultiplier_pos e d he hd hd1).ne') _

theorem aggShare_real (share : ℝ) (tauUsed : Bool) :
    Budget.aggShare realOps tauUsed share = if tauUsed then 1 - share else 1 := by
  rw [aggShare, realOps_one]; rfl

theorem aggShare_bounds (share : ℝ) (tauUsed : Bool) (hs0 : 0 < share) (hs1 : share < 1) :
    0 < Budget.aggShare realOps tauUsed share ∧ Budget.aggShare realOps tauUsed share ≤ 1 := by
  rw [aggShare_real]
  cases tauUsed
  · exact ⟨one_pos, le_rfl⟩
  · exact ⟨sub_pos.mpr hs1, sub_le_self 1 hs0.le⟩

/-- over ℝ, with `g ≥ 1` groups, every group gets the aggregates' share of (ε, δ) divided by `g` -/
theorem groupBudget_real (eps delta share : ℝ) (tauUsed : Bool) {g : ℕ} (hg : 1 ≤ g) :
    groupBudget realOps eps delta share tauUsed g =
      (eps * Budget.aggShare realOps tauUsed share / g, delta * Budget.aggShare realOps tauUsed share / g) := by
  rw [groupBudget, if_neg (Nat.not_lt.mpr hg)]; rfl

/-- … which is a valid pair (ε_G, δ_G) again -/
theorem groupBudget_valid (eps delta share : ℝ) (tauUsed : Bool) {g : ℕ} (hg : 1 ≤ g)
    (he : 0 < eps) (hd : 0 < delta) (hd1 : delta ≤ 1) (hs0 : 0 < share) (hs1 : share < 1) :
    0 < (groupBudget realOps eps delta share tauUsed g).1 ∧ 0 < (groupBudget realOps eps delta share tauUsed g).2 ∧
      (groupBudget realOps eps delta share tauUsed g).2 ≤ 1 := by
  have hg1 : (1 : ℝ) ≤ g := Nat.one_le_cast.mpr hg
  have hg0 : (0 : ℝ) < g := one_pos.trans_le hg1
  obtain ⟨hs, hs1⟩ := aggShare_bounds share tauUsed hs0 hs1
  rw [groupBudget_real _ _ _ _ hg]
  exact ⟨div_pos (mul_pos he hs) hg0, div_pos (mul_pos hd hs) hg0, (div_le_one hg0).mpr ((mul_le_one₀ hd1 hs.le hs1).trans hg1)⟩

/-- **Accounting of a whole DP aggregation.**  For `ε > 0`, `0 < δ ≤ 1`, a thresholding share in `(0, 1)`, and `g ≥ 1` groups:
every sum with clipping bound `C > 0` gets `σ > 0` (so `event_leaves` gives it an entry) and the recorded multiplier is `≤ σ/C`. -/
theorem reduce_accounting (eps delta share : ℝ) (tauUsed : Bool) (groups : List (List ℝ))
    (he : 0 < eps) (hd : 0 < delta) (hd1 : delta ≤ 1) (hs0 : 0 < share) (hs1 : share < 1) (hg : groups ≠ []) :
    let b := groupBudget realOps eps delta share tauUsed groups.length
    ∀ i (hi : i < groups.length) j (hj : j < (groups[i]).length), 0 < (groups[i])[j] →
      ∃ σ, ((DpReduce.sigmas realOps eps delta share tauUsed groups)[i]?.bind (·[j]?)) = some σ ∧ 0 < σ ∧
        recordedMultiplier realOps b.1 b.2 ≤ σ / (groups[i])[j] := by
  intro b i hi j hj hc
  obtain ⟨hb1, hb2, hb2le⟩ := groupBudget_valid eps delta share tauUsed (List.length_pos_iff.mpr hg) he hd hd1 hs0 hs1
  obtain ⟨hpos, hle⟩ := sum_accounted (groups[i]).length (Nat.zero_lt_of_lt hj) b.1 b.2 ((groups[i])[j]) hb1 hb2 hb2le hc
  refine ⟨_, ?_, hpos, hle⟩
  simp only [DpReduce.sigmas, Budget.sigmas, List.getElem?_map, List.getElem?_eq_getElem hi, Option.map_some, Option.bind_some,
    List.getElem?_eq_getElem hj]
  rfl

/-- `n ≥ 1` equal shares add up to the whole -/
theorem sum_even_shares {α : Type} (l : List α) (hl : l ≠ []) (x : ℝ) : (l.map fun _ => x / l.length).sum = x := by
  rw [List.map_const', List.sum_replicate, nsmul_eq_mul,
    mul_div_cancel₀ _ (Nat.cast_ne_zero.mpr (List.length_pos_iff.mpr hl).ne')]

/-- **Fits the budget** (basic composition over the whole aggregation): the ε handed to the key release plus the ε handed to each
sum add up to ε — exactly when every group has at least one sum.  The same holds for δ (replace `eps` by `delta`). -/
theorem reduce_budget (eps share : ℝ) (tauUsed : Bool) (groups : List (List ℝ)) (hg : groups ≠ []) (hne : ∀ b ∈ groups, b ≠ []) :
    (if tauUsed then eps * share else 0) +
      (groups.map fun bounds => (bounds.map fun _ =>
        (groupBudget realOps eps eps share tauUsed groups.length).1 / bounds.length).sum).sum = eps := by
  -- the sums of a group share the group's ε evenly, the groups share the aggregates' ε evenly
  rw [List.map_congr_left fun bounds hb => sum_even_shares bounds (hne bounds hb) _,
    groupBudget_real _ _ _ _ (List.length_pos_iff.mpr hg), sum_even_shares groups hg, aggShare_real]
  cases tauUsed
  · exact (zero_add _).trans (mul_one eps)
  · exact (budget_sum 1 le_rfl eps eps share).2.2.1   -- key release and aggregates

/-- non-vacuity: two groups (one DISTINCT split), three sums, thresholding used, valid parameters -/
example : (0 : ℝ) < 1 ∧ (0 : ℝ) < 1e-5 ∧ (1e-5 : ℝ) ≤ 1 ∧ (0 : ℝ) < 0.5 ∧ (0.5 : ℝ) < 1 ∧
    ([[10, 1], [3]] : List (List ℝ)) ≠ [] ∧ ∀ b ∈ ([[10, 1], [3]] : List (List ℝ)), b ≠ [] := by
  refine ⟨by norm_num, by norm_num, by norm_num, by norm_num, by norm_num, by simp, by simp⟩

end Qrlew.C03
