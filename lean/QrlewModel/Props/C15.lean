import QrlewModel.Model.Hierarchy
import QrlewModel.Lemmas.Lists
/-!
# C15 — name resolution: exact or unique-suffix match, never an arbitrary candidate

Theorems about `Hierarchy::get_key_value` for every map (any number of entries, shared suffixes,
nested prefixes) and every lookup path.
-/
namespace Qrlew.C15
open Qrlew

variable {α β : Type} [DecidableEq α]

/-- keys of the map are pairwise distinct (it is a `BTreeMap`). -/
def KeysNodup (m : List (List α × β)) : Prop := (m.map (·.1)).Nodup

/-- The fold with `Zero / One / More` computes "exactly one compatible entry". -/
theorem fold_eq_filter (m : List (List α × β)) (p : List α) :
    (m.foldl (foundStep p) Found.zero).toOption =
      (match m.filter (fun e => compat p e.1) with | [e] => some e | _ => none) := by
  -- the fold passes over the incompatible entries; on the others it counts `Zero, One, More`, and stays at `More`
  let count : Found (List α × β) → List α × β → Found (List α × β) := fun f e => match f with | .zero => .one e | _ => .more
  have more : ∀ l : List (List α × β), l.foldl count .more = .more := by
    intro l; induction l with
    | nil => rfl
    | cons _ _ ih => exact ih
  have skip : m.foldl (foundStep p) .zero = (m.filter fun e => compat p e.1).foldl count .zero := List.foldl_filter.symm
  rw [skip]
  generalize m.filter (fun e => compat p e.1) = l
  match l with
  | [] | [e] => rfl
  | _ :: _ :: t => exact congrArg Found.toOption (more t)
/-- An exact key always wins. -/
theorem lookup_exact (m : List (List α × β)) (p : List α) (v : β)
    (hk : KeysNodup m) (h : (p, v) ∈ m) : lookup m p = some (p, v) := by
  have hfind : m.find? (fun e => e.1 == p) = some (p, v) := by
    induction m with
    | nil => cases h
    | cons e rest ih =>
      rw [KeysNodup, List.map_cons, List.nodup_cons] at hk
      rw [List.find?_cons]
      rcases List.mem_cons.mp h with rfl | h
      · simp
      · -- the key `p` is in the tail, so the head has another key
        have : (e.1 == p) = false := beq_false_of_ne fun he => hk.1 (he ▸ List.mem_map.mpr ⟨(p, v), h, rfl⟩)
        rw [this]
        exact ih hk.2 h
  rw [lookup, hfind]

/-- Without an exact key the lookup yields the single compatible entry, and nothing if there are several (or none). -/
theorem lookup_unique (m : List (List α × β)) (p : List α) (hp : ∀ e ∈ m, e.1 ≠ p) :
    lookup m p = (match m.filter (fun e => compat p e.1) with | [e] => some e | _ => none) := by
  unfold lookup
  have : m.find? (fun e => e.1 == p) = none := by
    apply List.find?_eq_none.mpr
    intro e he; simpa using hp e he
  rw [this]
  exact fold_eq_filter m p

/-- Without an exact key, the lookup returns `e` exactly when `e` is the *only* compatible entry: the natural form of
`lookup_never_arbitrary`. -/
theorem lookup_eq_some_iff (m : List (List α × β)) (p : List α) (e : List α × β) (hp : ∀ e ∈ m, e.1 ≠ p) :
    lookup m p = some e ↔ m.filter (fun e => compat p e.1) = [e] := by
  rw [lookup_unique m p hp]
  cases m.filter (fun e => compat p e.1) with
  | nil => simp
  | cons a t => cases t <;> simp

/-- Whatever the lookup returns is never an arbitrary candidate: if the key was not matched exactly,
every entry compatible with the path is the returned one. -/
theorem lookup_never_arbitrary (m : List (List α × β)) (p : List α) (e : List α × β)
    (hp : ∀ e ∈ m, e.1 ≠ p) (h : lookup m p = some e) :
    e ∈ m ∧ compat p e.1 = true ∧ ∀ e' ∈ m, compat p e'.1 = true → ∀ i j : Nat, m[i]? = some e' → m[j]? = some e → i = j := by
  have hs := (lookup_eq_some_iff m p e hp).mp h
  have ⟨hem, hec⟩ := List.mem_filter.mp (hs ▸ List.mem_singleton.mpr rfl)
  exact ⟨hem, hec, fun e' _ hc' i j hi hj => Lists.filter_singleton_position hs hi hj hc' hec⟩

/-- The result does not depend on the order of the entries (it is a property of the *set* of entries). -/
theorem lookup_perm (m m' : List (List α × β)) (p : List α) (hk : KeysNodup m) (hperm : m.Perm m') :
    lookup m p = lookup m' p := by
  by_cases hex : ∃ v, (p, v) ∈ m
  · obtain ⟨v, hv⟩ := hex
    have hk' : KeysNodup m' := by
      unfold KeysNodup at *
      exact (hperm.map (fun (e : List α × β) => e.1)).nodup_iff.mp hk
    rw [lookup_exact m p v hk hv, lookup_exact m' p v hk' (hperm.mem_iff.mp hv)]
  · have hp : ∀ e ∈ m, e.1 ≠ p := by
      intro e he heq; apply hex; exact ⟨e.2, by rw [← heq]; exact he⟩
    have hp' : ∀ e ∈ m', e.1 ≠ p := fun e he => hp e (hperm.mem_iff.mpr he)
    -- the compatible entries of `m` and of `m'` are permutations of each other: one is a singleton iff the other is
    have hf := hperm.filter (fun e => compat p e.1)
    refine Option.ext fun e => ?_
    rw [lookup_eq_some_iff m p e hp, lookup_eq_some_iff m' p e hp']
    exact ⟨fun h => List.perm_singleton.mp (h ▸ hf.symm), fun h => List.perm_singleton.mp (h ▸ hf)⟩

/-- Non-vacuity: a map with a shared suffix, an exact key, and an ambiguous suffix. -/
example :
    let m : List (List String × Nat) := [(["t1", "a"], 1), (["t2", "a"], 2), (["t2", "b"], 3)]
    lookup m ["t1", "a"] = some (["t1", "a"], 1) ∧ lookup m ["b"] = some (["t2", "b"], 3) ∧
      lookup m ["a"] = none ∧ lookup m ["x", "t2", "b"] = some (["t2", "b"], 3) := by decide +kernel

end Qrlew.C15
