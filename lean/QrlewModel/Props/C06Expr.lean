/-!
# C06 — from functions to expressions: range propagation composes

`Expr::super_image` computes the type of an expression bottom-up: the type of `f(e₁, e₂)` is the image under `f` of the
types computed for `e₁` and `e₂`.  `expr_sound` shows that this scheme is sound for *every* expression tree as soon as
each function's image is sound on its own (what the per-function theorems of `Props/C06.lean` establish for the
arithmetic functions), for any value domain and any family of functions — including a conditional whose branches are
typed separately.
-/
namespace Qrlew.C06

variable {Val : Type} {φ₁ φ₂ : Type}

/-- expressions over columns, constants, unary and binary functions, and `CASE WHEN c THEN a ELSE b` -/
inductive E (Val φ₁ φ₂ : Type) where
  | col (i : Nat)
  | lit (v : Val)
  | app1 (f : φ₁) (a : E Val φ₁ φ₂)
  | app2 (f : φ₂) (a b : E Val φ₁ φ₂)
  | case (c a b : E Val φ₁ φ₂)

/-- what the functions compute, and which branch a condition value selects -/
structure Sem (Val φ₁ φ₂ : Type) where
  f1 : φ₁ → Val → Val
  f2 : φ₂ → Val → Val → Val
  truthy : Val → Bool

/-- the images the library declares for them (types are sets of values) -/
structure Img (Val φ₁ φ₂ : Type) where
  i1 : φ₁ → (Val → Prop) → (Val → Prop)
  i2 : φ₂ → (Val → Prop) → (Val → Prop) → (Val → Prop)

def eval (s : Sem Val φ₁ φ₂) (env : Nat → Val) : E Val φ₁ φ₂ → Val
  | .col i => env i
  | .lit v => v
  | .app1 f a => s.f1 f (eval s env a)
  | .app2 f a b => s.f2 f (eval s env a) (eval s env b)
  | .case c a b => if s.truthy (eval s env c) then eval s env a else eval s env b

/-- bottom-up type of an expression; a conditional gets the union of its branches' types -/
def image (im : Img Val φ₁ φ₂) (tys : Nat → Val → Prop) : E Val φ₁ φ₂ → (Val → Prop)
  | .col i => tys i
  | .lit v => fun x => x = v
  | .app1 f a => im.i1 f (image im tys a)
  | .app2 f a b => im.i2 f (image im tys a) (image im tys b)
  | .case _ a b => fun x => image im tys a x ∨ image im tys b x

/-- each function's declared image contains the function's values on the argument types -/
def FnSound (s : Sem Val φ₁ φ₂) (im : Img Val φ₁ φ₂) : Prop :=
  (∀ f (S : Val → Prop) v, S v → im.i1 f S (s.f1 f v)) ∧
  (∀ f (S T : Val → Prop) v w, S v → T w → im.i2 f S T (s.f2 f v w))

/-- for every expression, every row whose columns lie in their declared types evaluates inside the propagated type -/
theorem expr_sound (s : Sem Val φ₁ φ₂) (im : Img Val φ₁ φ₂) (h : FnSound s im)
    (tys : Nat → Val → Prop) (env : Nat → Val) (henv : ∀ i, tys i (env i)) :
    ∀ e : E Val φ₁ φ₂, image im tys e (eval s env e) := by
  intro e
  induction e with
  | col i => exact henv i
  | lit _ => rfl
  | app1 f a ih => exact h.1 f _ _ ih
  | app2 f a b iha ihb => exact h.2 f _ _ _ _ iha ihb
  | case c a b _ iha ihb =>
    simp only [eval, image]
    split
    · exact Or.inl iha
    · exact Or.inr ihb

/-- one unsound function image is enough to break an expression built on it: the hypothesis is needed -/
theorem unsound_function_counterexample :
    ∃ (s : Sem Int Unit Unit) (im : Img Int Unit Unit) (tys : Nat → Int → Prop) (env : Nat → Int),
      (∀ i, tys i (env i)) ∧ ¬ image im tys (.app1 () (.col 0)) (eval s env (.app1 () (.col 0))) :=
  ⟨⟨fun _ x => x + 1, fun _ x _ => x, fun _ => true⟩, ⟨fun _ S => S, fun _ S _ => S⟩, fun _ x => x = 0, fun _ => 0,
    fun _ => rfl, show (0 : Int) + 1 ≠ 0 by decide⟩

/-- Non-vacuity: integer addition with the interval image `[a+c, b+d]` meets `FnSound`, and `c0 + c0` on `[0, 3]` lies in `[0, 6]`. -/
example : ∃ (s : Sem Int Unit Unit) (im : Img Int Unit Unit), FnSound s im ∧
    image im (fun _ x => 0 ≤ x ∧ x ≤ 3) (.app2 () (.col 0) (.col 0)) (eval s (fun _ => 3) (.app2 () (.col 0) (.col 0))) :=
  ⟨⟨fun _ x => x, fun _ x y => x + y, fun _ => true⟩,
   ⟨fun _ S => S, fun _ S T z => ∃ x y, S x ∧ T y ∧ z = x + y⟩,
   ⟨fun _ _ _ h => h, fun _ _ _ v w hv hw => ⟨v, w, hv, hw, rfl⟩⟩,
   ⟨3, 3, ⟨by decide, by decide⟩, ⟨by decide, by decide⟩, rfl⟩⟩

end Qrlew.C06
