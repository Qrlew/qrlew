import QrlewModel.Lemmas.Rules
import QrlewModel.Model.KTree
import QrlewModel.Generated.Rules
import QrlewModel.Props.C13
/-!
# C02 — no un-noised path from protected tables to a DP / published / public result

`no_unnoised_path` is generic in the rule table: it assumes only the *local* condition `LocalSafe`
on the table.  `generated_local_safe` discharges that condition, by `decide`, for the table that the
translator regenerates from the real `RewritingRulesSetter` on every run — so a rule added to or
changed in `/repo` that opens an un-noised path breaks this obligation.
-/
namespace Qrlew.C02
open Qrlew

variable {κ : Type}

/-- Local (per-rule) safety of a rule table. -/
structure LocalSafe (table : κ → List Rule) (prot red leafK : κ → Bool) : Prop where
  /-- a protected table is only ever labelled private, privacy-unit-preserving, or replaced by synthetic data -/
  prot_leaf : ∀ k, prot k = true → ∀ r ∈ table k, r.output = .priv ∨ r.output = .pup ∨ r.output = .sd
  /-- a rule consuming raw (private / tracked) rows produces raw rows again, unless it is the DP rule on an aggregation -/
  raw_in_raw_out : ∀ k, leafK k = false → ∀ r ∈ table k,
    (∃ i ∈ r.inputs, isRaw i = true) → isRaw r.output = true ∨ (red k = true ∧ r = dpRule)

/-- Arity well-formedness: maps/reduces/joins/sets are inner nodes (tables and values are leaves). -/
def WFK (leafK : κ → Bool) : KTree κ → Prop
  | .leaf _ => True
  | .unary k c => leafK k = false ∧ WFK leafK c
  | .binary k l r => leafK k = false ∧ WFK leafK l ∧ WFK leafK r

/-- Key invariant: if a consistent derivation still exposes protected rows at its root, its root label is raw. -/
theorem exposed_raw (table : κ → List Rule) (prot red leafK : κ → Bool)
    (hs : LocalSafe table prot red leafK)
    (t : KTree κ) (hwf : WFK leafK t) (d : Deriv) (hc : Consistent d (annot table t)) (he : exposed prot red d t = true) :
    isRaw d.output = true := by
  fun_induction exposed prot red d t with
  | case1 r k =>
    -- a protected table that is not replaced by synthetic data is labelled private or tracked
    rw [Bool.and_eq_true, bne_iff_ne] at he
    rcases hs.prot_leaf k he.1 r hc with h | h | h
    · exact congrArg isRaw h
    · exact congrArg isRaw h
    · exact absurd h he.2
  | case2 r d' k c ih =>
    rw [Bool.and_eq_true, Bool.not_eq_true', Bool.and_eq_false_iff] at he
    obtain ⟨hr, hf, hc'⟩ := hc
    -- the child is exposed, hence raw, hence this rule consumes raw rows
    have hin : ∃ i ∈ r.inputs, isRaw i = true :=
      ⟨d'.output, List.mem_of_getElem? (beq_iff_eq.mp hf), ih hwf.2 hc' he.2⟩
    rcases hs.raw_in_raw_out k hwf.1 r hr hin with h | ⟨h1, h2⟩
    · exact h
    · -- it is not the DP rule at an aggregation: that would have cut the flow
      rcases he.1 with h | h
      · rw [h1] at h; cases h
      · rw [h2] at h; simp at h
  | case3 r0 a b k l r ihl ihr =>
    rw [Bool.or_eq_true] at he
    obtain ⟨hr, hf, hl, hr'⟩ := hc
    rw [fits2, Bool.and_eq_true, beq_iff_eq, beq_iff_eq] at hf
    have hin : ∃ i ∈ r0.inputs, isRaw i = true := he.elim
      (fun he => ⟨a.output, List.mem_of_getElem? hf.1, ihl hwf.2.1 hl he⟩)
      (fun he => ⟨b.output, List.mem_of_getElem? hf.2, ihr hwf.2.2 hr' he⟩)
    rcases hs.raw_in_raw_out k hwf.1 r0 hr hin with h | ⟨_, h2⟩
    · exact h
    · -- the DP rule has a single input; a binary node fitted two
      rw [h2] at hf; simp [dpRule] at hf
  | case4 => cases he

/-- **No un-noised path.** In every consistent derivation whose root is labelled public, published,
differentially private (or synthetic), every protected table is either replaced by its synthetic
version or lies below a differentially-private aggregation. -/
theorem no_unnoised_path (table : κ → List Rule) (prot red leafK : κ → Bool)
    (hs : LocalSafe table prot red leafK)
    (t : KTree κ) (hwf : WFK leafK t) (d : Deriv) (hc : Consistent d (annot table t))
    (hroot : isRaw d.output = false) : exposed prot red d t = false := by
  cases he : exposed prot red d t with
  | false => rfl
  | true =>
    have := exposed_raw table prot red leafK hs t hwf d hc he
    rw [this] at hroot; exact absurd hroot (by decide)

/-! ### the regenerated table -/

open Qrlew.Generated

def prot : NodeKind → Bool
  | .tableProtected => true
  | _ => false

def red : NodeKind → Bool
  | .reduceDpOk | .reduceDpNo => true
  | _ => false

def leafK : NodeKind → Bool
  | .tableProtected | .tablePublic | .values => true
  | _ => false

def rawInRawOut (k : NodeKind) (r : Rule) : Bool :=
  !(r.inputs.any isRaw) || isRaw r.output || (red k && r == dpRule)

def protLeafOk (r : Rule) : Bool := r.output == .priv || r.output == .pup || r.output == .sd

/-- decidable form of `LocalSafe` for the generated table -/
def localSafeB (synthetic hard : Bool) : Bool :=
  NodeKind.all.all fun k =>
    (if prot k then (rulesFor k synthetic hard).all protLeafOk else true) &&
    (if leafK k then true else (rulesFor k synthetic hard).all (rawInRawOut k))

theorem localSafeB_sound (synthetic hard : Bool) (h : localSafeB synthetic hard = true) :
    LocalSafe (fun k => rulesFor k synthetic hard) prot red leafK := by
  -- every kind is listed, so both conjuncts hold of every kind
  have hk := fun k : NodeKind => Bool.and_eq_true_iff.mp (List.all_eq_true.mp h k (by cases k <;> decide))
  refine ⟨fun k hp r hr => ?_, fun k hl r hr ⟨i, hi, hraw⟩ => ?_⟩
  · have := List.all_eq_true.mp (if_pos hp ▸ (hk k).1) r hr
    simpa [protLeafOk, or_assoc] using this
  · have := List.all_eq_true.mp (if_neg (Bool.eq_false_iff.mp hl) ▸ (hk k).2) r hr
    have hany : r.inputs.any isRaw = true := List.any_eq_true.mpr ⟨i, hi, hraw⟩
    simpa [rawInRawOut, hany] using this

/-- **The obligation regenerated from the code**: the rule table the real setter produces is locally
safe, in all four configurations (synthetic data or not, Soft or Hard strategy). -/
theorem generated_local_safe : ∀ synthetic hard : Bool,
    LocalSafe (fun k => rulesFor k synthetic hard) prot red leafK := by
  have checked : ∀ s h, localSafeB s h = true := by decide +kernel
  exact fun s h => localSafeB_sound s h (checked s h)

/-- The statement for the code's own table: any tree, any consistent derivation with a non-raw root. -/
theorem generated_no_unnoised_path (synthetic hard : Bool) (t : KTree NodeKind) (hwf : WFK leafK t)
    (d : Deriv) (hc : Consistent d (annot (fun k => rulesFor k synthetic hard) t))
    (hroot : isRaw d.output = false) : exposed prot red d t = false :=
  no_unnoised_path _ prot red leafK (generated_local_safe synthetic hard) t hwf d hc hroot

/-- the root labels `rewrite_with_differential_privacy` accepts are never raw -/
theorem accDP_not_raw (l : Label) (h : accDP l = true) : isRaw l = false := by
  cases l <;> simp_all [accDP, isRaw]

/-- **End to end with the search of C13**: whatever derivation the compiler's search *applies* for a DP rewriting — with the
rule table regenerated from the code, on any tree — has no un-noised path; and when the search answers "unreachable" nothing
is released at all. -/
theorem chosen_dp_rewriting_safe (synthetic hard : Bool) (t : KTree NodeKind) (hwf : WFK leafK t) (d : Deriv)
    (h : choose accDP (annot (fun k => rulesFor k synthetic hard) t) = some d) : exposed prot red d t = false := by
  obtain ⟨hc, ha, _⟩ := C13.choose_optimal accDP _ d h
  exact generated_no_unnoised_path synthetic hard t hwf d hc (accDP_not_raw _ ha)

/-- Non-vacuity: `SELECT sum(x) FROM protected` — the DP derivation hides the table, the tracked one exposes it. -/
example :
    let t : KTree NodeKind := .unary .reduceDpOk (.leaf .tableProtected)
    exposed prot red (.unary ⟨[.pup], .dp⟩ (.leaf ⟨[], .pup⟩)) t = false ∧
    exposed prot red (.unary ⟨[.pup], .pup⟩ (.leaf ⟨[], .pup⟩)) t = true ∧
    Consistent (.unary ⟨[.pup], .dp⟩ (.leaf ⟨[], .pup⟩)) (annot (fun k => rulesFor k false true) t) ∧ WFK leafK t := by
  exact ⟨rfl, rfl, ⟨by decide, rfl, (by decide : (⟨[], .pup⟩ : Rule) ∈ rulesFor .tableProtected false true)⟩, rfl, trivial⟩

end Qrlew.C02
