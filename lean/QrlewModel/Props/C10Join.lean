import QrlewModel.Props.C10
/-!
# C10 — the ON clause of a join

`Qrlew.joinNarrow` is the model of `DataType::filter_by_join_operator`: which side of a join the ON predicate narrows.
`join_matched_sound`: for every kind of join, a pair of rows that satisfies the predicate lies in the narrowed types of both sides.
`join_preserved_side_untouched`: the preserved side of an outer join keeps its type, so the rows that come out without a partner are
not dropped; `narrowing_preserved_side_unsound`: narrowing it anyway loses such a row.
-/
namespace Qrlew.C10
open Qrlew

theorem rowIn_append (l r : List Int) (A B : List Ivs) (hl : RowIn l A) (hr : RowIn r B) : RowIn (l ++ r) (A ++ B) := by
  obtain ⟨hl1, hl2⟩ := rowIn_iff.1 hl; obtain ⟨hr1, hr2⟩ := rowIn_iff.1 hr
  refine rowIn_iff.2 ⟨by rw [List.length_append, List.length_append, hl1, hr1], fun i x s hx hs => ?_⟩
  rw [List.getElem?_append, hl1] at hx
  rw [List.getElem?_append] at hs
  split at hx
  · rw [if_pos ‹_›] at hs; exact hl2 i x s hx hs
  · rw [if_neg ‹_›] at hs; exact hr2 _ x s hx hs

theorem rowIn_take (l r : List Int) (F : List Ivs) (h : RowIn (l ++ r) F) : RowIn l (F.take l.length) := by
  obtain ⟨h1, h2⟩ := rowIn_iff.1 h
  rw [List.length_append] at h1
  refine rowIn_iff.2 ⟨by rw [List.length_take, ← h1, Nat.min_eq_left (Nat.le_add_right ..)], fun i x s hx hs => ?_⟩
  have hi := (List.getElem?_eq_some_iff.mp hx).1
  rw [List.getElem?_take_of_lt hi] at hs
  exact h2 i x s (List.getElem?_append_left hi ▸ hx) hs

theorem rowIn_drop (l r : List Int) (F : List Ivs) (h : RowIn (l ++ r) F) : RowIn r (F.drop l.length) := by
  obtain ⟨h1, h2⟩ := rowIn_iff.1 h
  rw [List.length_append] at h1
  refine rowIn_iff.2 ⟨by rw [List.length_drop, ← h1, Nat.add_sub_cancel_left], fun i x s hx hs => ?_⟩
  rw [List.getElem?_drop] at hs
  refine h2 (l.length + i) x s ?_ hs
  rwa [List.getElem?_append_right (Nat.le_add_right ..), Nat.add_sub_cancel_left]

/-- **A matched pair survives the narrowing, whatever the kind of join.** -/
theorem join_matched_sound (cap : Nat) (hc : 2 ≤ cap) (k : JoinKind) (TL TR : List Ivs) (hTL : RowType cap TL) (hTR : RowType cap TR)
    (p : Pred) (hp : PredOk (TL ++ TR).length p) (l r : List Int) (hl : RowIn l TL) (hr : RowIn r TR)
    (hrange : ∀ x ∈ l ++ r, InRange x) (hev : evalPred (l ++ r) p = true) :
    RowIn l (joinNarrow cap k TL TR p).1 ∧ RowIn r (joinNarrow cap k TL TR p).2 := by
  have hT : RowType cap (TL ++ TR) := fun s hs => (List.mem_append.mp hs).elim (hTL s) (hTR s)
  have hF := filter_sound cap hc p (TL ++ TR) hT (l ++ r) (rowIn_append l r TL TR hl hr) hrange hp hev
  have ht := rowIn_take l r _ hF
  have hd := rowIn_drop l r _ hF
  rw [hl.1] at ht hd
  cases k with
  | inner => exact ⟨ht, hd⟩
  | left => exact ⟨hl, hd⟩
  | right => exact ⟨ht, hr⟩
  | full => exact ⟨hl, hr⟩

/-- **The preserved side keeps its type**: a left row without a partner (it comes out NULL-padded) is a row of the join's left type. -/
theorem join_preserved_side_untouched (cap : Nat) (TL TR : List Ivs) (p : Pred) :
    (joinNarrow cap .left TL TR p).1 = TL ∧ (joinNarrow cap .right TL TR p).2 = TR ∧ joinNarrow cap .full TL TR p = (TL, TR) :=
  ⟨rfl, rfl, rfl⟩

/-- narrowing the preserved side by a term that only mentions it loses rows: with `l.v ∈ [0, 5]` and `ON l.v ≥ 3`, the left row `v = 1`
still comes out of a LEFT JOIN, and is not in the narrowed type -/
theorem narrowing_preserved_side_unsound :
    let TL : List Ivs := [[(0, 5)]]
    let narrowed := (joinNarrow 128 .inner TL [[(0, 9)]] (.gt (.col 0) (.lit 3))).1
    RowIn [1] TL ∧ ¬ RowIn [1] narrowed := by decide +kernel

end Qrlew.C10
