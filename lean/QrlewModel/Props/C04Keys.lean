import QrlewModel.Props.C04
import QrlewModel.Props.C05Tree
import QrlewModel.Model.TauKeys
/-!
# C04 — the key-release pipeline as a whole

`Qrlew.TauKeys.releasedKeys` is the model of `tau_thresholding_values` (distinct (key, unit) pairs → contribution limiting →
noisy count → threshold), compared with the real rewriting by the `taukeys` stream.  For every table of (unit, key) rows, every
assignment of ranks and noise draws, every `K` and τ:

* `released_needs_units`: a released key is held by a number of distinct privacy units that, together with the drawn noise,
  exceeds τ — counted after the limiting (`released_count`), hence also before it;
* `limited_per_unit`: after the limiting no unit is left in more than `K` groups;
* `singleton_never_released`: a key held by at most one unit is not released when the noise draw is non-positive and τ ≥ 1.
-/
namespace Qrlew.C04
open Qrlew Qrlew.Tau Qrlew.TauKeys Qrlew.PupTree

theorem dedup_sublist {α : Type} [DecidableEq α] : ∀ l : List α, (PupTree.dedup l).Sublist l :=
  fun l => C05.dedup_eq_eraseDups l ▸ Lists.eraseDups_sublist l

theorem dedup_nodup {α : Type} [DecidableEq α] : ∀ l : List α, (PupTree.dedup l).Nodup :=
  fun l => C05.dedup_eq_eraseDups l ▸ Lists.nodup_eraseDups l

theorem limited_sublist (K : Nat) (rank : Pair → Int) (ps : List Pair) : (limited K rank ps).Sublist ps := List.filter_sublist

theorem countKey_mono {a b : List Pair} (h : a.Sublist b) (k : Int) : countKey a k ≤ countKey b k :=
  (h.filter _).length_le

/-- the count the threshold is applied to -/
theorem released_count (K : Nat) (rank : Pair → Int) (noise : Int → Int) (tau : Int) (rows : List Pair) (k : Int)
    (h : k ∈ releasedKeys K rank noise tau rows) :
    (countKey (limited K rank (TauKeys.dedup rows)) k : Int) + noise k > tau :=
  (released_iff _ _ _).mp (List.mem_filter.mp h).2

/-- the distinct units holding key `k` -/
def unitsHolding (rows : List Pair) (k : Int) : List Nat := PupTree.dedup ((rows.filter fun p => p.2 == k).map (·.1))

/-- among distinct pairs, those with key `k` are as many as the distinct units holding `k` -/
theorem countKey_dedup (rows : List Pair) (k : Int) : countKey (TauKeys.dedup rows) k = (unitsHolding rows k).length := by
  unfold countKey unitsHolding TauKeys.dedup
  rw [C05.filter_dedup, ← C05.dedup_map, List.length_map]
  -- on pairs that all carry the key `k` the projection to the unit is injective
  intro p hp q hq h
  have hp2 : p.2 = k := by simpa using (List.mem_filter.mp hp).2
  have hq2 : q.2 = k := by simpa using (List.mem_filter.mp hq).2
  exact Prod.ext h (hp2.trans hq2.symm)

/-- **A released key is held by enough distinct units**: their number plus the drawn noise exceeds τ. -/
theorem released_needs_units (K : Nat) (rank : Pair → Int) (noise : Int → Int) (tau : Int) (rows : List Pair) (k : Int)
    (h : k ∈ releasedKeys K rank noise tau rows) : ((unitsHolding rows k).length : Int) + noise k > tau := by
  have h1 := released_count K rank noise tau rows k h
  have h2 := countKey_mono (limited_sublist K rank (TauKeys.dedup rows)) k
  rw [countKey_dedup] at h2
  omega

/-- **A key held by a single privacy unit is never released deterministically** (noise draw ≤ 0, τ ≥ 1). -/
theorem singleton_never_released (K : Nat) (rank : Pair → Int) (noise : Int → Int) (tau : Int) (rows : List Pair) (k : Int)
    (hu : (unitsHolding rows k).length ≤ 1) (hn : noise k ≤ 0) (ht : 1 ≤ tau) : k ∉ releasedKeys K rank noise tau rows := by
  intro h
  have := released_needs_units K rank noise tau rows k h
  omega

/-- **Contribution limiting**: after it, no unit is left in more than `K` groups. -/
theorem limited_per_unit (K : Nat) (rank : Pair → Int) (ps : List Pair) (u : Nat) :
    ((limited K rank ps).filter fun p => p.1 == u).length ≤ K := by
  have h : ((limited K rank ps).filter fun p => p.1 == u).map rank = Tau.kept K (ranksOf rank ps u) := by
    unfold limited Tau.kept ranksOf
    rw [List.filter_filter, List.filter_map, List.filter_filter]
    congr 1
    refine List.filter_congr fun p _ => ?_
    -- the test of `limited` looks at the ranks of the pair's own unit
    cases hp : p.1 == u
    · exact (Bool.and_false _).symm
    · rw [Bool.true_and, Bool.and_true, Function.comp, beq_iff_eq.mp hp]
  exact List.length_map rank ▸ h ▸ limit_ok K (ranksOf rank ps u)

/-- **Nothing is invented**: a released key is a key some protected row carries (the threshold only removes keys). -/
theorem released_key_in_data (K : Nat) (rank : Pair → Int) (noise : Int → Int) (tau : Int) (rows : List Pair) (k : Int)
    (h : k ∈ releasedKeys K rank noise tau rows) : ∃ u, (u, k) ∈ rows := by
  unfold releasedKeys at h
  have h1 := (List.mem_filter.mp h).1
  have h2 := (dedup_sublist _).subset h1
  obtain ⟨p, hp, rfl⟩ := List.mem_map.mp h2
  exact ⟨p.1, (dedup_sublist rows).subset ((limited_sublist K rank _).subset hp)⟩

/-- … and every released key is released once -/
theorem releasedKeys_nodup (K : Nat) (rank : Pair → Int) (noise : Int → Int) (tau : Int) (rows : List Pair) :
    (releasedKeys K rank noise tau rows).Nodup := by
  unfold releasedKeys
  exact List.Nodup.sublist List.filter_sublist (dedup_nodup _)

/-- non-vacuity: three units hold key 7, one unit holds key 9 alone; K = 2, τ = 1, no noise, distinct ranks -/
example : releasedKeys 2 (fun p => (p.1 : Int) * 10 + p.2) (fun _ => 0) 1 [(1, 7), (2, 7), (3, 7), (3, 9), (1, 7)] = [7] ∧
    (unitsHolding [(1, 7), (2, 7), (3, 7), (3, 9), (1, 7)] 9).length = 1 := by decide

/-- … and with all ranks tied (constant draws) a unit spread over more than `K` groups loses all of them -/
example : limited 1 (fun _ => 0) [(1, 7), (1, 8), (2, 7)] = [(2, 7)] := by decide

end Qrlew.C04
