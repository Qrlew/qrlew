import QrlewModel.Props.C07
import QrlewModel.Lemmas.Lists
/-!
# C14 — columns declared unique are unique (propagation rules)

Uniqueness of a column = its values over the bag are pairwise distinct (`Nodup`).  The propagation rules of
`relation/mod.rs` are sound for functions that are injective on the column's values, for group-by keys,
and for joins whose other side has a unique key; a lossy cast is the kernel-checked counterexample
(it was listed as a bijection before the repair).
-/
namespace Qrlew.C14
open Qrlew.Lists
open Qrlew.Rel
variable {α β κ γ : Type}

/-- projection through a function that is injective on the values present keeps uniqueness -/
theorem map_injective_unique (f : γ → κ) (vals : List γ) (h : vals.Nodup)
    (hinj : ∀ x ∈ vals, ∀ y ∈ vals, f x = f y → x = y) : (vals.map f).Nodup :=
  List.pairwise_map.mpr (h.imp_of_mem fun hx hy ne e => ne (hinj _ hx _ hy e))

/-- a filter (WHERE) keeps uniqueness -/
theorem filter_unique (col : α → κ) (p : α → Bool) (b : List α) (h : (b.map col).Nodup) : ((b.filter p).map col).Nodup :=
  h.sublist (List.filter_sublist.map col)

/-- an inner join keeps the left side's unique columns when the right side's join key is unique
(each left row is matched at most once) -/
theorem join_keeps_left_unique [DecidableEq κ] (kl : α → κ) (kr : β → κ) (col : α → γ) (L : List α) (R : List β)
    (hL : (L.map col).Nodup) (hR : (R.map kr).Nodup) : ((joinOn kl kr L R).map fun ab => col ab.1).Nodup := by
  have := hL.sublist ((C07.joinOn_fst_sublist kl kr L R hR).map col)
  rwa [List.map_map] at this

/-- a LEFT OUTER join on a key that is unique on the right returns every left row exactly once, in order … -/
theorem left_join_unique_right_fst [DecidableEq κ] (kl : α → κ) (kr : β → κ) (L : List α) (R : List β) (hR : (R.map kr).Nodup) :
    (leftJoinOn kl kr L R).map (·.1) = L := by
  induction L with
  | nil => rfl
  | cons a t ih =>
    rw [C07.leftJoinOn_cons, List.map_append, ih]
    match R.filter (fun b => kl a == kr b), C07.filter_key_le_one kr R hR (kl a) with
    | [], _ | [_], _ => rfl

/-- … hence keeps every unique column of the left (preserved) side unique -/
theorem left_join_keeps_left_unique [DecidableEq κ] (kl : α → κ) (kr : β → κ) (col : α → γ) (L : List α) (R : List β)
    (hL : (L.map col).Nodup) (hR : (R.map kr).Nodup) : ((leftJoinOn kl kr L R).map fun ab => col ab.1).Nodup := by
  have h : ((leftJoinOn kl kr L R).map fun ab => col ab.1) = ((leftJoinOn kl kr L R).map (·.1)).map col := by
    rw [List.map_map]; rfl
  rw [h, left_join_unique_right_fst kl kr L R hR]; exact hL

/-- but a unique column of the *right* side does not stay unique under a LEFT OUTER join: unmatched left rows all carry NULL there
(what the recorded outer-join findings of this property are about) -/
theorem left_join_right_unique_counterexample :
    ¬ ((leftJoinOn (fun (a : Nat) => a) (fun (b : Nat) => b) [1, 2] [7]).map (·.2)).Nodup := by decide

/-- OFFSET / LIMIT after a WHERE keep uniqueness (the rows returned are a sub-bag) -/
theorem map_rows_unique (col : α → κ) (p : α → Bool) (offset limit : Option Nat) (b : List α) (h : (b.map col).Nodup) :
    ((mapRows p offset limit b).map col).Nodup :=
  h.sublist ((C07.mapRows_sublist p offset limit b).map col)

/-- a literal value list is declared unique exactly when it has no repeated value (adjacent or not) -/
theorem values_unique_iff [DecidableEq α] (vals : List α) : Rel.valuesUnique vals = true ↔ vals.Nodup := by
  unfold Rel.valuesUnique
  rw [beq_iff_eq]
  -- a sub-list of the same length is the list itself
  exact ⟨fun h => (eraseDups_sublist vals).eq_of_length h ▸ nodup_eraseDups vals, fun h => by rw [eraseDups_of_nodup h]⟩

/-- the case an adjacent-only comparison gets wrong -/
example : Rel.valuesUnique [1, 2, 1] = false ∧ ¬ ([1, 2, 1] : List Nat).Nodup := by decide


/-- the values of a single grouping key, one per group, are duplicate-free -/
theorem single_group_key_unique [DecidableEq κ] (key : α → κ) (b : List α) : ((b.map key).eraseDups).Nodup :=
  nodup_eraseDups _

/-- with two grouping keys the first one repeats across groups: it must not be declared unique -/
theorem two_group_keys_counterexample :
    ¬ ((([(1, 1), (1, 2)] : List (Nat × Nat)).eraseDups).map (·.1)).Nodup := by decide


/-- the lossy cast is not injective: ⌊1.2⌋ = ⌊1.4⌋ (values in tenths) — the witness of the repaired defect -/
theorem cast_to_integer_not_injective : ¬ (([12, 14] : List Int).map fun x => x / 10).Nodup := by decide

/-- Non-vacuity. -/
example : (([3, 1, 2] : List Int).map fun x => -x).Nodup := by decide

end Qrlew.C14
