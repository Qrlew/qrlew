import QrlewModel.Lemmas.Monotone
import QrlewModel.Model.Injection
/-!
# C12 — conversions are value-preserving injections within the converted type (numeric core)
-/
namespace Qrlew.C12
open Qrlew

/-- The converted type contains the image of every value: for any monotone (or antitone) value map,
mapping and re-ordering the endpoints of every interval covers the image of every member. -/
theorem image_mem (cap : Nat) (hc : 2 ≤ cap) (f : Int → Int) (l : Ivs)
    (hmono : (∀ u v, u ≤ v → f u ≤ f v) ∨ (∀ u v, u ≤ v → f v ≤ f u)) (x : Int) (hx : Mem x l) :
    Mem (f x) (imageIvs cap f l) := by
  -- the 1-D corner lemma on the whole line: the ordered pair of the mapped endpoints is their `(min, max)`
  obtain ⟨ab, hab, hxab⟩ := hx
  refine mem_fromIntervals hc (fun p hp => ?_) ⟨_, List.mem_map.mpr ⟨ab, hab, rfl⟩, ?_⟩
  · obtain ⟨q, _, rfl⟩ := List.mem_map.mp hp
    rw [ordered_pair_eq]; exact min_le_max ..
  · rw [ordered_pair_eq]
    exact dirMono_between f ab.1 ab.2 ab.1 ab.2 x (hmono.imp (fun h u v _ huv _ => h u v huv) fun h u v _ huv _ => h u v huv)
      (Int.le_refl _) hxab.1 hxab.2 (Int.le_refl _)

/-- Boolean → Integer is injective and the reverse conversion returns the original value. -/
theorem bool_round_trip (b : Bool) : intToBool? (boolToInt b) = some b := by cases b <;> rfl
theorem boolToInt_injective (a b : Bool) (h : boolToInt a = boolToInt b) : a = b :=
  Option.some.inj (by rw [← bool_round_trip a, h, bool_round_trip b])

/-- An out-of-range integer is refused rather than approximated. -/
theorem intToBool_refuses (n : Int) (h0 : n ≠ 0) (h1 : n ≠ 1) : intToBool? n = none := by
  simp [intToBool?, h0, h1]

/-- an accepted Integer → Boolean conversion is value-preserving: the boolean converts back to exactly that integer … -/
theorem intToBool_exact (n : Int) (b : Bool) (h : intToBool? n = some b) : boolToInt b = n := by
  by_cases h0 : n = 0
  · subst h0; cases h; rfl
  by_cases h1 : n = 1
  · subst h1; cases h; rfl
  · rw [intToBool_refuses n h0 h1] at h; cases h

/-- … hence injective where it is defined -/
theorem intToBool_injective (m n : Int) (b : Bool) (hm : intToBool? m = some b) (hn : intToBool? n = some b) : m = n := by
  rw [← intToBool_exact m b hm, ← intToBool_exact n b hn]

/-- an accepted Float → Integer conversion is value-preserving as far as the float can tell: the integer converts back to exactly
that float (the acceptance test *is* the round trip) — what is lost at ±2⁶³ is `floatToInt_not_value_preserving` -/
theorem floatToInt_round_trip (x n : Int) (h : floatToInt? x = some n) : ofInt n = x := by
  obtain ⟨hx, rfl⟩ := Option.ite_some_none_eq_some.mp h
  exact hx

theorem floatToInt_injective (x y n : Int) (hx : floatToInt? x = some n) (hy : floatToInt? y = some n) : x = y := by
  rw [← floatToInt_round_trip x n hx, ← floatToInt_round_trip y n hy]

/-- `i64 as f64` is exact up to 2^53 … -/
theorem ofInt_exact (n : Int) (h : -(2 ^ 53) < n ∧ n < 2 ^ 53) : ofInt n = n := by
  have hn : n.natAbs < 2 ^ 53 := by omega
  rw [ofInt, ofNatF, if_pos hn]
  split <;> omega

/-- … hence Integer → Float is injective there (`injective_partial`) -/
theorem intToFloat_injective_partial (a b : Int) (ha : -(2 ^ 53) < a ∧ a < 2 ^ 53) (hb : -(2 ^ 53) < b ∧ b < 2 ^ 53)
    (h : ofInt a = ofInt b) : a = b := by
  rwa [ofInt_exact a ha, ofInt_exact b hb] at h

/-- … but NOT beyond: two different integers convert to the same float (as observed on the real code). -/
theorem intToFloat_not_injective : ofInt (2 ^ 53) = ofInt (2 ^ 53 + 1) ∧ (2 ^ 53 : Int) ≠ 2 ^ 53 + 1 := by decide +kernel

/-- Float → Integer at 2^63 is accepted and changes the value (saturating `as` passes the round-trip guard). -/
theorem floatToInt_not_value_preserving : floatToInt? (2 ^ 63) = some (2 ^ 63 - 1) := by decide +kernel

/-- Float → Integer within the exact range preserves the value and round-trips. -/
theorem floatToInt_exact (x : Int) (h : -(2 ^ 53) < x ∧ x < 2 ^ 53) : floatToInt? x = some x := by
  have hs : floatToI64 x = x := by unfold floatToI64 sat i64Min i64Max; omega
  rw [floatToInt?, hs, if_pos (ofInt_exact x h)]

/-! ### Date ↔ DateTime -/

/-- Date → DateTime → Date returns the original date; Date → DateTime is injective. -/
theorem date_round_trip (d : Int) : stampToDate? (dateToStamp d) = some d := if_pos ⟨rfl, rfl⟩
theorem dateToStamp_injective (a b : Int) (h : dateToStamp a = dateToStamp b) : a = b :=
  Option.some.inj (by rw [← date_round_trip a, h, date_round_trip b])

/-- DateTime → Date is value-preserving wherever it is accepted: the accepted timestamp *is* the midnight of the date returned. -/
theorem stampToDate_exact (s : Stamp) (d : Int) (h : stampToDate? s = some d) : dateToStamp d = s := by
  obtain ⟨day, sec, nano⟩ := s
  obtain ⟨⟨rfl, rfl⟩, rfl⟩ := Option.ite_some_none_eq_some.mp h
  rfl

/-- … hence injective on what it accepts … -/
theorem stampToDate_injective (s t : Stamp) (d : Int) (hs : stampToDate? s = some d) (ht : stampToDate? t = some d) : s = t := by
  rw [← stampToDate_exact s d hs, ← stampToDate_exact t d ht]

/-- … and a timestamp with any time of day, down to one nanosecond after midnight, is refused rather than truncated. -/
theorem stampToDate_refuses (s : Stamp) (h : s.sec ≠ 0 ∨ s.nano ≠ 0) : stampToDate? s = none :=
  if_neg fun hz => h.elim (· hz.1) (· hz.2)

example : stampToDate? ⟨18700, 0, 250000000⟩ = none ∧ stampToDate? ⟨18700, 0, 0⟩ = some 18700 := by decide

/-- Non-vacuity: ties-to-even at the first inexact integers. -/
example : ofInt (2 ^ 53 + 1) = 2 ^ 53 ∧ ofInt (2 ^ 53 + 3) = 2 ^ 53 + 4 ∧ ofInt (-(2 ^ 62) - 513) = -(2 ^ 62) - 1024 ∧ ofInt (-(2 ^ 62) - 512) = -(2 ^ 62) ∧
    ofInt 9223372036854775807 = 2 ^ 63 := by decide +kernel

end Qrlew.C12
