import QrlewModel.Props.C06
import QrlewModel.Model.Filter
/-!
# C10 — WHERE / ON narrowing never drops a row that satisfies the predicate

`filter_sound`: for every row type (columns = integer interval sets of any shape), every predicate built
from comparisons (column/literal on either side), equalities, AND, OR and unsupported sub-terms at any
nesting depth, and every row of the type on which the predicate is true, the row belongs to the narrowed
type.  The proof composes the C11 lattice theorems (∩ and ∪ never lose a point) with the C06 corner
theorem for `greatest` / `least`.
-/
namespace Qrlew.C10
open Qrlew Qrlew.C06

def RowType (cap : Nat) (T : List Ivs) : Prop := ∀ s ∈ T, Good cap s

def RowIn (row : List Int) (T : List Ivs) : Prop :=
  row.length = T.length ∧ ∀ i, i < T.length → Mem (row.getD i 0) (T.getD i [])

def InRange (x : Int) : Prop := i64Min ≤ x ∧ x ≤ i64Max

def OperandOk (n : Nat) : Operand → Prop
  | .col i => i < n
  | .lit k => InRange k

def PredOk (n : Nat) : Pred → Prop
  | .gt l r => OperandOk n l ∧ OperandOk n r
  | .lt l r => OperandOk n l ∧ OperandOk n r
  | .eq l r => OperandOk n l ∧ OperandOk n r
  | .and p q => PredOk n p ∧ PredOk n q
  | .or p q => PredOk n p ∧ PredOk n q
  | .other _ => True

instance (row : List Int) (T : List Ivs) : Decidable (RowIn row T) := by unfold RowIn; infer_instance

theorem getD_lt {α : Type} (l : List α) (i : Nat) (d : α) (h : i < l.length) : l.getD i d = l[i] := by
  rw [List.getD_eq_getElem?_getD, List.getElem?_eq_getElem h]; rfl

theorem getD_ge {α : Type} (l : List α) (i : Nat) (d : α) (h : l.length ≤ i) : l.getD i d = d := by
  rw [List.getD_eq_getElem?_getD, List.getElem?_eq_none h]; rfl

/-- `RowIn` position by position, in the form `getElem?` has its lemmas for (`append`, `take`, `drop`, `set`, `zipWith`) -/
theorem rowIn_iff {row : List Int} {T : List Ivs} :
    RowIn row T ↔ row.length = T.length ∧ ∀ (i : Nat) x s, row[i]? = some x → T[i]? = some s → Mem x s := by
  refine and_congr_right fun hl => ⟨fun h i x s hx hs => ?_, fun h i hi => ?_⟩
  · have := h i (List.getElem?_eq_some_iff.mp hs).1
    rwa [List.getD_eq_getElem?_getD, List.getD_eq_getElem?_getD, hx, hs] at this
  · rw [getD_lt _ _ _ hi, getD_lt _ _ _ (hl ▸ hi)]
    exact h i _ _ (List.getElem?_eq_getElem _) (List.getElem?_eq_getElem _)

theorem good_nil (cap : Nat) (hc : 2 ≤ cap) : Good cap [] := Good.nil hc

/-- what holds of every entry and of the default holds of `getD` at any position, inside the list or beyond its end -/
theorem getD_of_forall {α : Type} {P : α → Prop} {l : List α} {d : α} (hl : ∀ x ∈ l, P x) (hd : P d) (i : Nat) :
    P (l.getD i d) := by
  rw [List.getD_eq_getElem?_getD]
  cases h : l[i]? with
  | none => exact hd
  | some x => exact hl x (List.mem_of_getElem? h)

theorem getD_good (cap : Nat) (hc : 2 ≤ cap) (T : List Ivs) (hT : RowType cap T) (i : Nat) : Good cap (T.getD i []) :=
  getD_of_forall hT (Good.nil hc) i

theorem opType_good (cap : Nat) (hc : 2 ≤ cap) (T : List Ivs) (hT : RowType cap T) (o : Operand) : Good cap (opType T o) := by
  cases o with
  | col i => exact getD_good cap hc T hT i
  | lit k => exact Good.single hc (Int.le_refl k)

theorem mem_point (k : Int) : Mem k [(k, k)] := ⟨(k, k), List.mem_singleton.mpr rfl, Int.le_refl k, Int.le_refl k⟩

theorem mem_opType (row : List Int) (T : List Ivs) (h : RowIn row T) (o : Operand) (ho : OperandOk T.length o) :
    Mem (evalOperand row o) (opType T o) := by
  cases o with
  | col i => exact h.2 i ho
  | lit k => exact mem_point k

theorem evalOperand_range (row : List Int) (hr : ∀ x ∈ row, InRange x) (o : Operand) (n : Nat) (ho : OperandOk n o)
    (hn : n = row.length) : InRange (evalOperand row o) := by
  cases o with
  | col i => exact getD_of_forall hr ⟨by decide, by decide⟩ i
  | lit k => exact ho

theorem fromIntervals_good (cap : Nat) (hc : 2 ≤ cap) (ps : Ivs) (hps : ∀ p ∈ ps, p.1 ≤ p.2) : Good cap (fromIntervals cap ps) :=
  Qrlew.fromIntervals_good hc hps

theorem pmImage2_good (cap : Nat) (hc : 2 ≤ cap) (parts : List ((Int × Int) × (Int × Int))) (f : Int → Int → Int) (s1 s2 : Ivs) :
    Good cap (pmImage2 cap parts f s1 s2) :=
  Qrlew.fromIntervals_good hc (pmImage2_ordered cap parts f s1 s2)

theorem max_le_max {a b c d : Int} (h₁ : a ≤ c) (h₂ : b ≤ d) : max a b ≤ max c d :=
  Int.max_le.2 ⟨Int.le_trans h₁ (Int.le_max_left ..), Int.le_trans h₂ (Int.le_max_right ..)⟩

theorem min_le_min {a b c d : Int} (h₁ : a ≤ c) (h₂ : b ≤ d) : min a b ≤ min c d :=
  Int.le_min.2 ⟨Int.le_trans (Int.min_le_left ..) h₁, Int.le_trans (Int.min_le_right ..) h₂⟩

/-- a function that is monotone in both arguments is coordinate-wise monotone on every box -/
theorem boxMono_of_mono {f : Int → Int → Int} (h : ∀ {a b c d : Int}, a ≤ c → b ≤ d → f a b ≤ f c d)
    (p : (Int × Int) × (Int × Int)) : BoxMono f p :=
  ⟨fun y _ _ => Or.inl fun _ _ _ huv _ => h huv (Int.le_refl y), fun x _ _ => Or.inl fun _ _ _ huv _ => h (Int.le_refl x) huv⟩

theorem max_boxMono : BoxMono (fun x y => max x y) (fullI, fullI) := boxMono_of_mono max_le_max _

theorem min_boxMono : BoxMono (fun x y => min x y) (fullI, fullI) := boxMono_of_mono min_le_min _

theorem full_parts_ok : ∀ p ∈ plusParts, p.1.1 ≤ p.1.2 ∧ p.2.1 ≤ p.2.2 := plusParts_ok

theorem greatest_sound (cap : Nat) (hc : 2 ≤ cap) (L R : Ivs) (hL : Good cap L) (hR : Good cap R) (x y : Int)
    (hx : Mem x L) (hy : Mem y R) (hxr : InRange x) (hyr : InRange y) : Mem (max x y) (greatestImage cap L R) :=
  pm2_sound_full cap hc _ max_boxMono L R hL hR x y hx hy hxr hyr

theorem least_sound (cap : Nat) (hc : 2 ≤ cap) (L R : Ivs) (hL : Good cap L) (hR : Good cap R) (x y : Int)
    (hx : Mem x L) (hy : Mem y R) (hxr : InRange x) (hyr : InRange y) : Mem (min x y) (leastImage cap L R) :=
  pm2_sound_full cap hc _ min_boxMono L R hL hR x y hx hy hxr hyr

/-! ### replacing one column -/

theorem setCol_length (T : List Ivs) (o : Operand) (s : Ivs) : (setCol T o s).length = T.length := by
  cases o <;> simp [setCol]

theorem setCol_rowType (cap : Nat) (T : List Ivs) (hT : RowType cap T) (o : Operand) (s : Ivs) (hs : Good cap s) :
    RowType cap (setCol T o s) := by
  cases o with
  | lit k => exact hT
  | col i => exact fun t ht => (List.mem_or_eq_of_mem_set ht).elim (hT t) (· ▸ hs)

theorem setCol_rowIn (row : List Int) (T : List Ivs) (h : RowIn row T) (o : Operand) (s : Ivs)
    (hs : Mem (evalOperand row o) s) : RowIn row (setCol T o s) := by
  cases o with
  | lit k => exact h
  | col i =>
    refine ⟨h.1.trans List.length_set.symm, fun j hj => ?_⟩
    have hj : j < T.length := List.length_set ▸ hj
    show Mem (row.getD j 0) ((T.set i s).getD j [])
    rw [List.getD_eq_getElem?_getD (l := T.set i s)]
    by_cases hij : i = j
    · subst hij; rw [List.getElem?_set_self hj]; exact hs
    · rw [List.getElem?_set_ne hij, ← List.getD_eq_getElem?_getD]; exact h.2 j hj

/-- evaluating an operand is unaffected by which type the row is checked against -/
theorem opType_setCol_mem (row : List Int) (T : List Ivs) (h : RowIn row T) (o o' : Operand) (s : Ivs)
    (hs : Mem (evalOperand row o) s) (ho' : OperandOk T.length o') :
    Mem (evalOperand row o') (opType (setCol T o s) o') :=
  mem_opType row _ (setCol_rowIn row T h o s hs) o' (by rw [setCol_length]; exact ho')

/-! ### well-formedness is preserved by narrowing (whatever the truth of the predicate) -/

theorem zipWith_rowType (cap : Nat) (f : Ivs → Ivs → Ivs) (A B : List Ivs)
    (hf : ∀ a ∈ A, ∀ b ∈ B, Good cap (f a b)) : RowType cap (List.zipWith f A B) := by
  intro s hs
  obtain ⟨i, hi, rfl⟩ := List.getElem_of_mem hs
  rw [List.getElem_zipWith]
  exact hf _ (List.getElem_mem _) _ (List.getElem_mem _)

theorem length_zipWith_of_eq {α β γ : Type} {f : α → β → γ} {A : List α} {B : List β} {n : Nat} (hA : A.length = n)
    (hB : B.length = n) : (List.zipWith f A B).length = n := by
  rw [List.length_zipWith, hA, hB, Nat.min_self]

theorem filter_wf (cap : Nat) (hc : 2 ≤ cap) (p : Pred) : ∀ (T : List Ivs), RowType cap T →
    RowType cap (filterT cap T p) ∧ (filterT cap T p).length = T.length := by
  -- `l >= r` and `l <= r` are the same narrowing with the operands exchanged
  have ge : ∀ (T : List Ivs) (l r : Operand), RowType cap T →
      RowType cap (narrowGe cap T l r) ∧ (narrowGe cap T l r).length = T.length := fun T l r hT =>
    ⟨setCol_rowType cap _ (setCol_rowType cap T hT l _ (inter_good hc (pmImage2_good cap hc ..) (opType_good cap hc T hT l))) r _
      (inter_good hc (pmImage2_good cap hc ..) (opType_good cap hc T hT r)), (setCol_length ..).trans (setCol_length ..)⟩
  induction p with
  | gt l r => exact fun T => ge T l r
  | lt l r => exact fun T => ge T r l
  | eq l r =>
    intro T hT
    have hd := inter_good hc (opType_good cap hc T hT l) (opType_good cap hc T hT r)
    exact ⟨setCol_rowType cap _ (setCol_rowType cap T hT l _ hd) r _ hd, (setCol_length ..).trans (setCol_length ..)⟩
  | and p q ihp ihq =>
    intro T hT
    have hq := ihq T hT; have hp := ihp T hT
    have hpq := ihp _ hq.1; have hqp := ihq _ hp.1
    exact ⟨zipWith_rowType cap _ _ _ fun a ha b hb => inter_good hc (hpq.1 a ha) (hqp.1 b hb),
      length_zipWith_of_eq (hpq.2.trans hq.2) (hqp.2.trans hp.2)⟩
  | or p q ihp ihq =>
    intro T hT
    have hq := ihq T hT; have hp := ihp T hT
    exact ⟨zipWith_rowType cap _ _ _ fun a ha b hb => union_good hc (hq.1 a ha) (hp.1 b hb), length_zipWith_of_eq hq.2 hp.2⟩
  | other t => exact fun T hT => ⟨hT, rfl⟩

/-- a row lies in a column-wise combination of two row types as soon as every cell lies in the combination of the two
column types at its position (the row itself need not lie in both operands: that is the `OR` case) -/
theorem zipWith_rowIn_of (row : List Int) (f : Ivs → Ivs → Ivs) (A B : List Ivs) (hA : A.length = row.length)
    (hB : B.length = row.length) (h : ∀ (i : Nat) x a b, row[i]? = some x → A[i]? = some a → B[i]? = some b → Mem x (f a b)) :
    RowIn row (List.zipWith f A B) := by
  refine rowIn_iff.2 ⟨(length_zipWith_of_eq hA hB).symm, fun i x s hx hs => ?_⟩
  obtain ⟨a, b, ha, hb, rfl⟩ := List.getElem?_zipWith_eq_some.1 hs
  exact h i x a b hx ha hb

theorem zipWith_rowIn (row : List Int) (f : Ivs → Ivs → Ivs) (A B : List Ivs) (hA : RowIn row A) (hB : RowIn row B)
    (hf : ∀ x a b, Mem x a → Mem x b → Mem x (f a b)) : RowIn row (List.zipWith f A B) :=
  zipWith_rowIn_of row f A B hA.1.symm hB.1.symm fun i x a b hx ha hb =>
    hf x a b ((rowIn_iff.1 hA).2 i x a hx ha) ((rowIn_iff.1 hB).2 i x b hx hb)

/-- narrowing by `l >= r` keeps every row on which `l >= r` holds -/
theorem narrowGe_sound (cap : Nat) (hc : 2 ≤ cap) (T : List Ivs) (hT : RowType cap T) (row : List Int)
    (hrow : RowIn row T) (hr : ∀ x ∈ row, InRange x) (l r : Operand) (hl : OperandOk T.length l) (hro : OperandOk T.length r)
    (hge : evalOperand row l ≥ evalOperand row r) : RowIn row (narrowGe cap T l r) := by
  have hL := opType_good cap hc T hT l; have hR := opType_good cap hc T hT r
  have hx := mem_opType row T hrow l hl; have hy := mem_opType row T hrow r hro
  have hxr := evalOperand_range row hr l T.length hl hrow.1.symm
  have hyr := evalOperand_range row hr r T.length hro hrow.1.symm
  -- `max l r = l` and `min l r = r` on this row, so the two images contain the operands' own values
  have hg := greatest_sound cap hc _ _ hL hR _ _ hx hy hxr hyr
  have hle := least_sound cap hc _ _ hL hR _ _ hx hy hxr hyr
  rw [Int.max_eq_left hge] at hg
  rw [Int.min_eq_right hge] at hle
  exact setCol_rowIn row _ (setCol_rowIn row T hrow l _ (mem_inter hc (pmImage2_good cap hc ..) hL hg hx)) r _
    (mem_inter hc (pmImage2_good cap hc ..) hR hle hy)

/-- **C10.** Every row of the type on which the predicate is true belongs to the narrowed type. -/
theorem filter_sound (cap : Nat) (hc : 2 ≤ cap) (p : Pred) : ∀ (T : List Ivs), RowType cap T → ∀ (row : List Int),
    RowIn row T → (∀ x ∈ row, InRange x) → PredOk T.length p → evalPred row p = true → RowIn row (filterT cap T p) := by
  induction p with
  | gt l r => exact fun T hT row hrow hr hok hev => narrowGe_sound cap hc T hT row hrow hr l r hok.1 hok.2 (of_decide_eq_true hev)
  | lt l r => exact fun T hT row hrow hr hok hev => narrowGe_sound cap hc T hT row hrow hr r l hok.2 hok.1 (of_decide_eq_true hev)
  | eq l r =>
    intro T hT row hrow hr hok hev
    have hev : evalOperand row l = evalOperand row r := of_decide_eq_true hev
    have hd : Mem (evalOperand row l) (inter cap (opType T l) (opType T r)) :=
      mem_inter hc (opType_good cap hc T hT l) (opType_good cap hc T hT r) (mem_opType row T hrow l hok.1)
        (hev ▸ mem_opType row T hrow r hok.2)
    exact setCol_rowIn row _ (setCol_rowIn row T hrow l _ hd) r _ (hev ▸ hd)
  | and p q ihp ihq =>
    intro T hT row hrow hr hok hev
    have hev := Bool.and_eq_true_iff.1 hev
    have wq := filter_wf cap hc q T hT; have wp := filter_wf cap hc p T hT
    have wpq := filter_wf cap hc p _ wq.1; have wqp := filter_wf cap hc q _ wp.1
    -- the row lies in both operands of the column-wise intersection
    have hpq := rowIn_iff.1 (ihp _ wq.1 row (ihq T hT row hrow hr hok.2 hev.2) hr (wq.2 ▸ hok.1) hev.1)
    have hqp := rowIn_iff.1 (ihq _ wp.1 row (ihp T hT row hrow hr hok.1 hev.1) hr (wp.2 ▸ hok.2) hev.2)
    exact zipWith_rowIn_of row _ _ _ hpq.1.symm hqp.1.symm fun i x a b hx ha hb =>
      mem_inter hc (wpq.1 a (List.mem_of_getElem? ha)) (wqp.1 b (List.mem_of_getElem? hb)) (hpq.2 i x a hx ha) (hqp.2 i x b hx hb)
  | or p q ihp ihq =>
    intro T hT row hrow hr hok hev
    have wq := filter_wf cap hc q T hT; have wp := filter_wf cap hc p T hT
    -- the row lies in one operand of the column-wise union, and the other has the same width
    refine zipWith_rowIn_of row _ _ _ (wq.2.trans hrow.1.symm) (wp.2.trans hrow.1.symm) fun i x a b hx ha hb =>
      mem_union hc (wq.1 a (List.mem_of_getElem? ha)) (wp.1 b (List.mem_of_getElem? hb)) ?_
    rcases Bool.or_eq_true_iff.1 hev with hev | hev
    · exact Or.inr ((rowIn_iff.1 (ihp T hT row hrow hr hok.1 hev)).2 i x b hx hb)
    · exact Or.inl ((rowIn_iff.1 (ihq T hT row hrow hr hok.2 hev)).2 i x a hx ha)
  | other t => exact fun T hT row hrow _ _ _ => hrow

/-- **Any number of successive WHEREs** (a stack of Maps, or a filter pushed through several nodes): a row on which every
predicate of the list is true belongs to the type narrowed by all of them in turn, and the narrowed type stays well formed. -/
theorem filter_chain_sound (cap : Nat) (hc : 2 ≤ cap) : ∀ (ps : List Pred) (T : List Ivs), RowType cap T → ∀ (row : List Int),
    RowIn row T → (∀ x ∈ row, InRange x) → (∀ p ∈ ps, PredOk T.length p) → (∀ p ∈ ps, evalPred row p = true) →
    RowIn row (ps.foldl (filterT cap) T) ∧ RowType cap (ps.foldl (filterT cap) T) := by
  intro ps
  induction ps with
  | nil => exact fun T hT row hrow _ _ _ => ⟨hrow, hT⟩
  | cons p ps ih =>
    intro T hT row hrow hr hok hev
    have w := filter_wf cap hc p T hT
    exact ih _ w.1 row (filter_sound cap hc p T hT row hrow hr (hok p List.mem_cons_self) (hev p List.mem_cons_self)) hr
      (fun q hq => w.2 ▸ hok q (List.mem_cons_of_mem _ hq)) (fun q hq => hev q (List.mem_cons_of_mem _ hq))

/-- a predicate the narrowing does not understand never narrows anything (the only safe answer) -/
theorem filter_other_identity (cap : Nat) (T : List Ivs) (t : Bool) : filterT cap T (.other t) = T := rfl

/-- Non-vacuity: `a >= 3 AND (a <= b OR <unsupported>)` on a two-column row type. -/
example :
    filterT 128 [[(0, 10)], [(2, 4)]] (.and (.gt (.col 0) (.lit 3)) (.or (.lt (.col 0) (.col 1)) (.other false)))
      = [[(3, 10)], [(2, 4)]] ∧
    evalPred [4, 4] (.and (.gt (.col 0) (.lit 3)) (.or (.lt (.col 0) (.col 1)) (.other false))) = true := by decide +kernel

end Qrlew.C10
