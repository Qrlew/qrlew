import QrlewModel.Props.C07
import QrlewModel.Props.C14
import QrlewModel.Model.RelTree
/-!
# C07 / C14 for whole trees of Relation IR nodes

`Qrlew.RelTree.sizeMax` and `Qrlew.RelTree.uniq` are the size bound and the UNIQUE flags the compiler declares for a node
(compared with the real compiler by the `reltree` stream, together with the rows `eval` computes).  Theorem `sound`: for every
tree (any shape and depth) of tables, maps (projection through listed bijections or other functions, WHERE, OFFSET, LIMIT), inner
joins on a key equality, `UNION [ALL]`, `INTERSECT`, `EXCEPT` and `GROUP BY … count(*)`, and every database whose tables respect
their declared size and UNIQUE columns, the result has at most `sizeMax` rows and every column flagged unique holds pairwise
distinct values.  (Outer joins are not in the tree model: the size the code declares for them is the recorded C07 finding,
`left_join_unique_bound_counterexample`.)
-/
namespace Qrlew.C07Tree
open Qrlew Qrlew.Rel Qrlew.RelTree

def colVals (rows : List Row) (c : Nat) : List Int := rows.map fun r => cell r c

/-- the database respects the declarations of the tables the tree reads -/
def Conf (db : Nat → List Row) : T → Prop
  | .table id n u => (db id).length ≤ n ∧ (∀ r ∈ db id, r.length = u.length) ∧ ∀ c, flag u c = true → (colVals (db id) c).Nodup
  | .map _ _ _ _ t => Conf db t
  | .join _ _ l r => Conf db l ∧ Conf db r
  | .union _ l r => Conf db l ∧ Conf db r ∧ width l = width r
  | .intersect l r => Conf db l ∧ Conf db r ∧ width l = width r
  | .except l r => Conf db l ∧ Conf db r ∧ width l = width r
  | .reduce _ t => Conf db t

structure Sound (db : Nat → List Row) (t : T) : Prop where
  size : (eval db t).length ≤ sizeMax t
  wid : ∀ r ∈ eval db t, r.length = width t
  uniq : ∀ c, flag (uniq t) c = true → (colVals (eval db t) c).Nodup

/-! ### small facts about `flag`, `cell`, `dedup`, `mapRows`, `joinOn` -/

theorem uniq_length (t : T) : (uniq t).length = width t := by
  induction t <;> simp [uniq, width, *]

theorem flag_eq (u : List Bool) (c : Nat) : flag u c = (u[c]?).getD false := List.getD_eq_getElem?_getD ..

theorem flag_lt {u : List Bool} {c : Nat} (h : flag u c = true) : c < u.length :=
  Nat.lt_of_not_le fun hc => by rw [flag_eq, List.getElem?_eq_none hc] at h; cases h

theorem flag_map_false {α : Type} (l : List α) (c : Nat) : flag (l.map fun _ => false) c = false := by
  rw [flag_eq, List.getElem?_map]
  cases l[c]? <;> rfl

theorem flag_map {α : Type} (l : List α) (f : α → Bool) (c : Nat) (h : flag (l.map f) c = true) :
    ∃ hc : c < l.length, f l[c] = true := by
  have hc : c < l.length := List.length_map f ▸ flag_lt h
  rw [flag_eq, List.getElem?_map, List.getElem?_eq_getElem hc] at h
  exact ⟨hc, h⟩

theorem flag_map_and (u : List Bool) (b : Bool) (c : Nat) : flag (u.map (· && b)) c = (flag u c && b) := by
  rw [flag_eq, flag_eq, List.getElem?_map]
  cases u[c]? <;> rfl

theorem flag_append_left (a b : List Bool) (c : Nat) (hc : c < a.length) : flag (a ++ b) c = flag a c := by
  rw [flag_eq, flag_eq, List.getElem?_append_left hc]

theorem flag_append_right (a b : List Bool) (c : Nat) (hc : a.length ≤ c) : flag (a ++ b) c = flag b (c - a.length) := by
  rw [flag_eq, flag_eq, List.getElem?_append_right hc]

theorem flag_of_getElem (u : List Bool) (c : Nat) (hc : c < u.length) (h : u[c] = true) : flag u c = true := by
  rw [flag_eq, List.getElem?_eq_getElem hc]; exact h

/-- only positions inside the list are flagged, so a claim about the flagged columns is a finite one -/
theorem forall_flag {u : List Bool} {P : Nat → Prop} (h : ∀ c < u.length, flag u c = true → P c) (c : Nat)
    (hc : flag u c = true) : P c := h c (flag_lt hc) hc

/-- the count column that `Reduce` appends is never flagged -/
theorem flag_append_false {u : List Bool} {c : Nat} (h : flag (u ++ [false]) c = true) : flag u c = true := by
  by_cases hc : c < u.length
  · rwa [flag_append_left _ _ _ hc] at h
  · have : ∀ k, flag [false] k = false := fun k => by cases k <;> rfl
    rw [flag_append_right _ _ _ (Nat.le_of_not_lt hc), this] at h
    cases h

theorem cell_eq (r : Row) (c : Nat) : cell r c = (r[c]?).getD 0 := List.getD_eq_getElem?_getD ..

theorem cell_map {α : Type} (l : List α) (f : α → Int) (c : Nat) (hc : c < l.length) : cell (l.map f) c = f l[c] := by
  rw [cell_eq, List.getElem?_map, List.getElem?_eq_getElem hc]; rfl

theorem cell_append_left (a b : Row) (c : Nat) (hc : c < a.length) : cell (a ++ b) c = cell a c := by
  rw [cell_eq, cell_eq, List.getElem?_append_left hc]

theorem cell_append_right (a b : Row) (c : Nat) (hc : a.length ≤ c) : cell (a ++ b) c = cell b (c - a.length) := by
  rw [cell_eq, cell_eq, List.getElem?_append_right hc]

/-- column `c` of rows that are each `l.map (f x)`: what `f x` makes of `l[c]` -/
theorem colVals_map {α β : Type} (J : List α) (l : List β) (f : α → β → Int) {c : Nat} (hc : c < l.length) :
    colVals (J.map fun x => l.map (f x)) c = J.map fun x => f x l[c] := by
  rw [colVals, List.map_map]
  exact List.map_congr_left fun x _ => cell_map l (f x) c hc

/-- column `c` of rows `f x ++ g x` whose left parts all have `n` cells is a column of the left parts when `c < n` … -/
theorem colVals_append_left {α : Type} (J : List α) (f g : α → Row) {c n : Nat} (hf : ∀ x ∈ J, (f x).length = n) (hc : c < n) :
    colVals (J.map fun x => f x ++ g x) c = J.map fun x => cell (f x) c := by
  rw [colVals, List.map_map]
  exact List.map_congr_left fun x hx => cell_append_left _ _ _ (hf x hx ▸ hc)

/-- … and column `c - n` of the right parts otherwise -/
theorem colVals_append_right {α : Type} (J : List α) (f g : α → Row) {c n : Nat} (hf : ∀ x ∈ J, (f x).length = n) (hc : n ≤ c) :
    colVals (J.map fun x => f x ++ g x) c = J.map fun x => cell (g x) (c - n) := by
  rw [colVals, List.map_map]
  exact List.map_congr_left fun x hx => hf x hx ▸ cell_append_right _ _ _ (hf x hx ▸ hc)

theorem dedup_eq_eraseDups : ∀ l : List Row, dedup l = l.eraseDups
  | [] => rfl
  | a :: t => by rw [dedup, dedup_eq_eraseDups t, Lists.filter_eraseDups, List.eraseDups_cons]

theorem dedup_sublist : ∀ l : List Row, (dedup l).Sublist l :=
  fun l => dedup_eq_eraseDups l ▸ Lists.eraseDups_sublist l

theorem dedup_length_le (l : List Row) : (dedup l).length ≤ l.length := (dedup_sublist l).length_le

theorem mem_dedup_iff (x : Row) : ∀ l : List Row, x ∈ dedup l ↔ x ∈ l :=
  fun l => dedup_eq_eraseDups l ▸ List.mem_eraseDups

theorem dedup_nodup : ∀ l : List Row, (dedup l).Nodup :=
  fun l => dedup_eq_eraseDups l ▸ Lists.nodup_eraseDups l

theorem mapRows_sublist {α : Type} (p : α → Bool) (off lim : Option Nat) (b : List α) : (mapRows p off lim b).Sublist b :=
  C07.mapRows_sublist p off lim b

theorem mem_joinOn {α β κ : Type} [DecidableEq κ] (kl : α → κ) (kr : β → κ) (L : List α) (R : List β) (ab : α × β)
    (h : ab ∈ joinOn kl kr L R) : ab.1 ∈ L ∧ ab.2 ∈ R ∧ kl ab.1 = kr ab.2 := by
  obtain ⟨a, ha, hab⟩ := List.mem_flatMap.mp h
  obtain ⟨b, hb, rfl⟩ := List.mem_map.mp hab
  exact ⟨ha, (List.mem_filter.mp hb).1, beq_iff_eq.mp (List.mem_filter.mp hb).2⟩

theorem joinOn_cons {α β κ : Type} [DecidableEq κ] (kl : α → κ) (kr : β → κ) (a : α) (t : List α) (R : List β) :
    joinOn kl kr (a :: t) R = ((R.filter fun b => kl a == kr b).map fun b => (a, b)) ++ joinOn kl kr t R :=
  C07.joinOn_cons kl kr a t R

theorem joinOn_length_le_left {α β κ : Type} [DecidableEq κ] (kl : α → κ) (kr : β → κ) (L : List α) (R : List β)
    (h : (R.map kr).Nodup) : (joinOn kl kr L R).length ≤ L.length :=
  C07.joinOn_length_le kl kr L R h

/-- adding a right row adds the pairs it makes with the left rows that have its key -/
theorem joinOn_perm_cons_right {α β κ : Type} [DecidableEq κ] (kl : α → κ) (kr : β → κ) (L : List α) (b : β) (s : List β) :
    (joinOn kl kr L (b :: s)).Perm (((L.filter fun a => kl a == kr b).map fun a => (a, b)) ++ joinOn kl kr L s) := by
  induction L with
  | nil => exact .refl _
  | cons a t ih =>
    have ih' := (ih.append_left ((s.filter fun b => kl a == kr b).map fun b => (a, b))).trans (List.perm_append_comm_assoc ..)
    rw [joinOn_cons, joinOn_cons, List.filter_cons, List.filter_cons]
    split
    · exact ih'.cons _
    · exact ih'

/-- a join and the join with the sides exchanged hold the same pairs, in another order: what is proved of the left side
(`C07.joinOn_length_le`, `C14.join_keeps_left_unique`) holds of the right one -/
theorem joinOn_perm_swap {α β κ : Type} [DecidableEq κ] (kl : α → κ) (kr : β → κ) (L : List α) (R : List β) :
    ((joinOn kl kr L R).map Prod.swap).Perm (joinOn kr kl R L) := by
  induction R with
  | nil =>
    have : joinOn kl kr L [] = [] := List.flatMap_eq_nil_iff.mpr fun _ _ => rfl
    rw [this]; exact .refl _
  | cons b s ih =>
    refine ((joinOn_perm_cons_right kl kr L b s).map _).trans ?_
    rw [List.map_append, List.map_map, joinOn_cons, List.filter_congr fun a _ => BEq.comm (a := kr b)]
    exact ih.append_left _

theorem joinOn_length_cons_right {α β κ : Type} [DecidableEq κ] (kl : α → κ) (kr : β → κ) (L : List α) (b : β) (s : List β) :
    (joinOn kl kr L (b :: s)).length = (L.filter fun a => kl a == kr b).length + (joinOn kl kr L s).length := by
  rw [(joinOn_perm_cons_right kl kr L b s).length_eq, List.length_append, List.length_map]

/-- the number of matching pairs does not depend on the side one counts from -/
theorem joinOn_length_swap {α β κ : Type} [DecidableEq κ] (kl : α → κ) (kr : β → κ) (L : List α) (R : List β) :
    (joinOn kl kr L R).length = (joinOn kr kl R L).length := by
  rw [← (joinOn_perm_swap kl kr L R).length_eq, List.length_map]

/-- the symmetric size bound: with a unique *left* key every right row is matched at most once -/
theorem join_size_unique_left {α β κ : Type} [DecidableEq κ] (kl : α → κ) (kr : β → κ) (L : List α) (R : List β)
    (h : (L.map kl).Nodup) : (joinOn kl kr L R).length ≤ R.length := by
  rw [joinOn_length_swap]
  exact joinOn_length_le_left kr kl R L h

/-- … and the right side's unique columns survive -/
theorem join_keeps_right_unique {α β κ γ : Type} [DecidableEq κ] (kl : α → κ) (kr : β → κ) (col : β → γ) (L : List α) (R : List β)
    (hL : (L.map kl).Nodup) (hR : (R.map col).Nodup) : ((joinOn kl kr L R).map fun ab => col ab.2).Nodup := by
  have := ((joinOn_perm_swap kl kr L R).map fun ba => col ba.1).nodup_iff.mpr (C14.join_keeps_left_unique kr kl col R L hR hL)
  rwa [List.map_map] at this

/-! ### one node at a time -/

variable {db : Nat → List Row}

/-- the projections `Map::schema_exprs` passes a UNIQUE constraint through are injective -/
theorem Fn.app_injective {f : Fn} (h : f.keeps = true) : Function.Injective f.app := by
  cases f with
  | id => exact fun _ _ h => h
  | neg => exact fun _ _ h => Int.neg_inj.mp h
  | abs | plus => cases h

theorem sound_map (proj : List (Nat × Fn)) (flt : Option (Nat × Int)) (off lim : Option Nat) {t : T} (s : Sound db t) :
    Sound db (.map proj flt off lim t) := by
  refine ⟨?_, fun r hr => ?_, fun c hc => ?_⟩
  · rw [eval, List.length_map]
    exact C07.map_size _ _ _ _ _ s.size
  · obtain ⟨_, _, rfl⟩ := List.mem_map.mp hr
    exact List.length_map _
  · obtain ⟨hlt, hp⟩ := flag_map proj _ c hc
    rw [Bool.and_eq_true] at hp
    -- the output column is the input column `proj[c].1` of the surviving rows, mapped through `proj[c].2`
    rw [eval, colVals_map _ proj _ hlt]
    have hin := (s.uniq _ hp.2).sublist ((mapRows_sublist (keep flt) off lim (eval db t)).map _)
    exact List.pairwise_map.mpr ((List.pairwise_map.mp hin).imp fun ne e => ne (Fn.app_injective hp.1 e))

theorem sound_join (lc rc : Nat) {l r : T} (sl : Sound db l) (sr : Sound db r) : Sound db (.join lc rc l r) := by
  have hmem := mem_joinOn (fun a => cell a lc) (fun b => cell b rc) (eval db l) (eval db r)
  have hwl : ∀ ab ∈ joinOn (fun a => cell a lc) (fun b => cell b rc) (eval db l) (eval db r), ab.1.length = width l :=
    fun ab hab => sl.wid _ (hmem ab hab).1
  refine ⟨?_, fun row hrow => ?_, fun c hc => ?_⟩
  · rw [eval, sizeMax, List.length_map]
    split
    · rename_i h
      rcases Bool.or_eq_true _ _ ▸ h with h | h
      · exact Nat.le_trans (join_size_unique_left _ _ _ _ (sl.uniq lc h)) (Nat.le_trans sr.size (Nat.le_max_right ..))
      · exact Nat.le_trans (C07.joinOn_length_le _ _ _ _ (sr.uniq rc h)) (Nat.le_trans sl.size (Nat.le_max_left ..))
    · exact Nat.le_trans (C07.join_size_product ..) (Nat.mul_le_mul sl.size sr.size)
  · obtain ⟨ab, hab, rfl⟩ := List.mem_map.mp hrow
    rw [List.length_append, hwl ab hab, sr.wid _ (hmem ab hab).2.1, width]
  · -- a column of the left input keeps its flag when the right key is unique, and vice versa
    rw [uniq] at hc
    rw [eval]
    by_cases hcl : c < width l
    · rw [flag_append_left _ _ _ (by rwa [List.length_map, uniq_length]), flag_map_and, Bool.and_eq_true] at hc
      rw [colVals_append_left _ _ _ hwl hcl]
      exact C14.join_keeps_left_unique _ _ (fun a => cell a c) _ _ (sl.uniq c hc.1) (sr.uniq rc hc.2)
    · have hge : width l ≤ c := Nat.le_of_not_lt hcl
      rw [flag_append_right _ _ _ (by rwa [List.length_map, uniq_length]), flag_map_and, Bool.and_eq_true, List.length_map,
        uniq_length] at hc
      rw [colVals_append_right _ _ _ hwl hge]
      exact join_keeps_right_unique _ _ (fun b => cell b (c - width l)) _ _ (sl.uniq lc hc.2) (sr.uniq _ hc.1)

/-- the set operations: no column is flagged, so what is left is the size and the width of the rows -/
theorem sound_setop {t l : T} (hu : uniq t = (uniq l).map fun _ => false) (hwd : width t = width l)
    (size : (eval db t).length ≤ sizeMax t) (wid : ∀ r ∈ eval db t, r.length = width l) : Sound db t :=
  ⟨size, fun r hr => hwd ▸ wid r hr, fun c hc => by rw [hu, flag_map_false] at hc; cases hc⟩

theorem sound_union (all : Bool) {l r : T} (sl : Sound db l) (sr : Sound db r) (hw : width l = width r) :
    Sound db (.union all l r) := by
  have hwid : ∀ row ∈ eval db l ++ eval db r, row.length = width l := fun row hrow =>
    (List.mem_append.mp hrow).elim (sl.wid _) fun h => hw ▸ sr.wid _ h
  have hlen := C07.union_all_size _ _ _ _ sl.size sr.size
  cases all with
  | true => exact sound_setop rfl rfl hlen hwid
  | false =>
    exact sound_setop rfl rfl (Nat.le_trans (dedup_length_le _) hlen) fun row hrow => hwid row ((mem_dedup_iff row _).mp hrow)

theorem sound_intersect {l r : T} (sl : Sound db l) (sr : Sound db r) : Sound db (.intersect l r) := by
  refine sound_setop rfl rfl ?_ fun row hrow => sl.wid _ (List.mem_filter.mp ((mem_dedup_iff row _).mp hrow)).1
  -- a sub-list of the left input; and no more rows than the right one: distinct rows, all of which occur there
  refine C07.intersect_size _ _ _ _ _ sl.size sr.size ((dedup_sublist _).trans List.filter_sublist) ?_
  exact (dedup_nodup _).length_le_of_subset fun x hx =>
    List.contains_iff_mem.mp (List.mem_filter.mp ((mem_dedup_iff x _).mp hx)).2

theorem sound_except {l r : T} (sl : Sound db l) : Sound db (.except l r) :=
  sound_setop rfl rfl (Nat.le_trans (dedup_length_le _) (Nat.le_trans (List.length_filter_le ..) sl.size))
    fun row hrow => sl.wid _ (List.mem_filter.mp ((mem_dedup_iff row _).mp hrow)).1

theorem sound_reduce (keys : List Nat) {t : T} (s : Sound db t) : Sound db (.reduce keys t) := by
  -- a group is the tuple of the key cells of some row
  have hlen : ∀ g ∈ dedup ((eval db t).map fun r => keys.map (cell r)), g.length = keys.length := fun g hg => by
    obtain ⟨r, _, rfl⟩ := List.mem_map.mp ((mem_dedup_iff g _).mp hg)
    exact List.length_map _
  refine ⟨?_, fun row hrow => ?_, fun c hc => ?_⟩
  · rw [eval, List.length_map]
    exact Nat.le_trans (dedup_length_le _) (by rw [List.length_map]; exact s.size)
  · obtain ⟨g, hg, rfl⟩ := List.mem_map.mp hrow
    rw [List.length_append, hlen g hg]; rfl
  · -- the flagged column is a grouping key, the only one or one that is unique in the input
    obtain ⟨hck, hp⟩ := flag_map keys _ c (flag_append_false hc)
    rw [eval, colVals_append_left _ (fun g => g) _ hlen hck]
    rcases Bool.or_eq_true _ _ ▸ hp with h1 | hu
    · -- a single grouping key: the groups are duplicate-free one-element tuples
      rw [beq_iff_eq] at h1
      obtain rfl : c = 0 := by omega
      refine C14.map_injective_unique _ _ (dedup_nodup _) fun g1 hg1 g2 hg2 heq => ?_
      obtain ⟨x, rfl⟩ := List.length_eq_one_iff.mp ((hlen g1 hg1).trans h1)
      obtain ⟨y, rfl⟩ := List.length_eq_one_iff.mp ((hlen g2 hg2).trans h1)
      exact congrArg (fun v => [v]) heq
    · -- a key that is unique in the input: the groups are a sub-list of the rows' key tuples
      refine List.Nodup.sublist ((dedup_sublist _).map fun g => cell g c) ?_
      rw [← colVals, colVals_map _ keys _ hck]
      exact s.uniq _ hu

/-! ### every tree -/

theorem sound (db : Nat → List Row) (t : T) (h : Conf db t) : Sound db t := by
  induction t with
  | table id n u => exact ⟨h.1, h.2.1, h.2.2⟩
  | map proj flt off lim t ih => exact sound_map proj flt off lim (ih h)
  | join lc rc l r ihl ihr => exact sound_join lc rc (ihl h.1) (ihr h.2)
  | union all l r ihl ihr => exact sound_union all (ihl h.1) (ihr h.2.1) h.2.2
  | intersect l r ihl ihr => exact sound_intersect (ihl h.1) (ihr h.2.1)
  | except l r ihl _ => exact sound_except (ihl h.1)
  | reduce keys t ih => exact sound_reduce keys (ih h)

/-- C07, every tree: the result never has more rows than the declared size -/
theorem size_sound (db : Nat → List Row) (t : T) (h : Conf db t) : (eval db t).length ≤ sizeMax t := (sound db t h).size

/-- C14, every tree: a column flagged UNIQUE holds pairwise distinct values -/
theorem unique_sound (db : Nat → List Row) (t : T) (h : Conf db t) (c : Nat) (hc : flag (uniq t) c = true) :
    (colVals (eval db t) c).Nodup := (sound db t h).uniq c hc

/-- non-vacuity: a reduce over a join on a unique key over conforming tables, with a flagged output column -/
def exDb : Nat → List Row := fun i => if i = 0 then [[1, 5], [2, 5]] else [[1, 7], [1, 8], [2, 9]]
def exJoin : T := .join 0 0 (.table 0 2 [true, false]) (.table 1 3 [false, true])

example : Conf exDb (.reduce [3] exJoin) :=
  ⟨⟨by decide, by decide, forall_flag (by decide)⟩, ⟨by decide, by decide, forall_flag (by decide)⟩⟩

example : flag (uniq (.reduce [3] exJoin)) 0 = true ∧ flag (uniq (.reduce [0, 2] exJoin)) 0 = false ∧
    sizeMax (.reduce [3] exJoin) = 3 ∧ eval exDb (.reduce [3] exJoin) = [[7, 1], [8, 1], [9, 1]] := by decide

/-- the flags are not vacuous either way: grouping by two keys must not flag the first one (and `uniq` does not) -/
theorem two_keys_not_flagged : flag (uniq (.reduce [0, 1] (.table 0 4 [false, false]))) 0 = false := by decide

end Qrlew.C07Tree
