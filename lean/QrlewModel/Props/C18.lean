import QrlewModel.Model.Total
/-!
# C18 — where the arithmetic behind type images can panic, and where it cannot

* saturating `+ - *` are total, stay in the `i64` range and are monotone; the `(smallest, largest)` pair built from
  corner values is always ordered, so `assert!(min <= max)` cannot fire on integers (`corners_ordered`, `mul_total`, `whole_total`);
* integer division: the image computation panics exactly when the divisor interval contains 0 (`divImage_panics_iff`);
* float division: a NaN corner (the only way the ordering assertion can fail) exists exactly when both intervals contain 0
  (`fdiv_nan_corner_iff`);
* `absolute_upper_bound`: the old formula panics exactly when a bound is `i64::MIN`; the repaired one is total and agrees
  with the old one wherever that was defined (`absUpperOld_none_iff`, `absUpperNew_eq_old`).
-/
namespace Qrlew.C18
open Qrlew.Total

/-- clamping is `max MIN (min MAX x)` -/
theorem clampI_eq (x : Int) : clampI x = max minI (min maxI x) := by
  unfold clampI
  split
  · next h => exact (Int.max_eq_left (Int.le_trans (Int.min_le_right ..) (Int.le_of_lt h))).symm
  · next h1 =>
    split
    · next h2 => rw [Int.min_eq_left (Int.le_of_lt h2), Int.max_eq_right (by decide)]
    · next h2 => rw [Int.min_eq_right (Int.not_lt.mp h2), Int.max_eq_right (Int.not_lt.mp h1)]

theorem clampI_range (x : Int) : minI ≤ clampI x ∧ clampI x ≤ maxI := by
  rw [clampI_eq]; exact ⟨Int.le_max_left .., Int.max_le.2 ⟨by decide, Int.min_le_left ..⟩⟩

theorem clampI_mono {x y : Int} (h : x ≤ y) : clampI x ≤ clampI y := by
  rw [clampI_eq, clampI_eq]
  -- `min maxI ·` and `max minI ·` are monotone
  have h' : min maxI x ≤ min maxI y := Int.le_min.2 ⟨Int.min_le_left .., Int.le_trans (Int.min_le_right ..) h⟩
  exact Int.max_le.2 ⟨Int.le_max_left .., Int.le_trans h' (Int.le_max_right ..)⟩

theorem satAdd_mono {a b c d : Int} (h1 : a ≤ b) (h2 : c ≤ d) : satAdd a c ≤ satAdd b d := clampI_mono (by omega)
theorem satSub_mono {a b c d : Int} (h1 : a ≤ b) (h2 : c ≤ d) : satSub a d ≤ satSub b c := clampI_mono (by omega)

theorem satDiv_none_iff (x y : Int) : satDiv? x y = none ↔ y = 0 := by
  unfold satDiv?; split <;> simp_all

/-- whatever the corner values are, the pair handed to `union_interval` is ordered -/
theorem corners_ordered (f : Int → Int → Option Int) (px py : Int × Int) (lo hi : Int)
    (h : corners? f px py = some (lo, hi)) : lo ≤ hi := by
  unfold corners? at h
  split at h
  · cases h
    exact Int.le_trans (Int.min_le_left ..) (Int.le_trans (Int.min_le_left ..)
      (Int.le_trans (Int.le_max_left ..) (Int.le_max_left ..)))
  · cases h

theorem corners_none_iff (f : Int → Int → Option Int) (px py : Int × Int) :
    corners? f px py = none ↔ f px.1 py.1 = none ∨ f px.1 py.2 = none ∨ f px.2 py.1 = none ∨ f px.2 py.2 = none := by
  unfold corners?
  split
  · next h1 h2 h3 h4 => rw [h1, h2, h3, h4]; exact iff_of_false nofun (by simp)
  · next hne =>
    -- the first branch was not taken: not all four are `some`
    refine iff_of_true rfl (Decidable.byContradiction fun hn => ?_)
    simp only [not_or, ← ne_eq, Option.ne_none_iff_exists'] at hn
    obtain ⟨⟨v1, h1⟩, ⟨v2, h2⟩, ⟨v3, h3⟩, ⟨v4, h4⟩⟩ := hn
    exact hne v1 v2 v3 v4 h1 h2 h3 h4

theorem allSome_none_iff (l : List (Option α)) : allSome l = none ↔ none ∈ l := by
  induction l with
  | nil => simp [allSome]
  | cons x rest ih =>
    cases x with
    | none => simp [allSome]
    | some v => simp [allSome, ih]

theorem parts_nonempty {a b : Int} (h : a ≤ b) : parts a b ≠ [] := by
  unfold parts
  by_cases hb : 0 ≤ b
  · simp [hb]
  · have : a ≤ 0 := by omega
    simp [hb, this]

/-- a piece of `[c,d]` has a zero end point exactly when `[c,d]` contains 0 -/
theorem parts_zero_corner_iff {c d : Int} (h : c ≤ d) :
    (∃ py ∈ parts c d, py.1 = 0 ∨ py.2 = 0) ↔ (c ≤ 0 ∧ 0 ≤ d) := by
  unfold parts
  by_cases hd : 0 ≤ d <;> by_cases hc : c ≤ 0 <;> simp [hd, hc] <;> omega

/-- integer division: the image computation panics exactly when the divisor interval contains 0 -/
theorem divImage_panics_iff {a b c d : Int} (hab : a ≤ b) (hcd : c ≤ d) :
    divImage? a b c d = none ↔ (c ≤ 0 ∧ 0 ≤ d) := by
  unfold divImage? pieceImage?
  rw [allSome_none_iff, ← parts_zero_corner_iff hcd]
  simp only [List.mem_flatMap, List.mem_map]
  constructor
  · rintro ⟨px, _, py, hpy, hnone⟩
    have := (corners_none_iff satDiv? px py).mp hnone
    simp only [satDiv_none_iff] at this
    exact ⟨py, hpy, by omega⟩
  · rintro ⟨py, hpy, hz⟩
    obtain ⟨px, hpx⟩ := List.exists_mem_of_ne_nil _ (parts_nonempty hab)
    refine ⟨px, hpx, py, hpy, ?_⟩
    rw [corners_none_iff]
    simp only [satDiv_none_iff]
    omega

/-- the corners of a function that is defined everywhere are all there -/
theorem corners_total (g : Int → Int → Int) (px py : Int × Int) : corners? (fun x y => some (g x y)) px py ≠ none := nofun

/-- multiplication, addition and subtraction: the image computation never panics -/
theorem mul_total (a b c d : Int) : mulImage? a b c d ≠ none := by
  unfold mulImage? pieceImage?
  rw [Ne, allSome_none_iff]
  simp only [List.mem_flatMap, List.mem_map, not_exists, not_and]
  exact fun px _ py _ h => corners_total _ px py h

theorem whole_total (g : Int → Int → Int) (a b c d : Int) : wholeImage? (fun x y => some (g x y)) a b c d ≠ none := by
  unfold wholeImage?
  rw [Ne, allSome_none_iff, List.mem_singleton]
  exact fun h => corners_total g (a, b) (c, d) h.symm

theorem fdivClass_nan_iff (x y : Int) : fdivClass x y = .nan ↔ (x = 0 ∧ y = 0) := by
  refine ⟨fun h => ?_, fun ⟨hx, hy⟩ => by rw [hx, hy]; rfl⟩
  -- of the six branches only `0 / 0` gives NaN
  unfold fdivClass at h
  by_cases hy : y = 0
  · by_cases hx : x = 0
    · exact ⟨hx, hy⟩
    · rw [if_pos hy, if_neg hx] at h; split at h <;> cases h
  · rw [if_neg hy] at h; split at h
    · cases h
    · split at h <;> cases h

/-- some corner `(x, y)` with `x ∈ {A, B}`, `y ∈ {C, D}` has both properties iff each side has one -/
theorem corner_or {A B C D : Prop} : (A ∧ C) ∨ (A ∧ D) ∨ (B ∧ C) ∨ (B ∧ D) ↔ (A ∨ B) ∧ (C ∨ D) :=
  ⟨fun h => h.elim (fun h => ⟨.inl h.1, .inl h.2⟩) fun h => h.elim (fun h => ⟨.inl h.1, .inr h.2⟩) fun h =>
      h.elim (fun h => ⟨.inr h.1, .inl h.2⟩) fun h => ⟨.inr h.1, .inr h.2⟩,
    fun ⟨ab, cd⟩ => ab.elim (fun a => cd.elim (fun c => .inl ⟨a, c⟩) fun d => .inr (.inl ⟨a, d⟩))
      fun b => cd.elim (fun c => .inr (.inr (.inl ⟨b, c⟩))) fun d => .inr (.inr (.inr ⟨b, d⟩))⟩

/-- float division: a NaN corner exists exactly when both intervals contain 0 -/
theorem fdiv_nan_corner_iff {a b c d : Int} (hab : a ≤ b) (hcd : c ≤ d) :
    fdivNanCorner a b c d = true ↔ ((a ≤ 0 ∧ 0 ≤ b) ∧ (c ≤ 0 ∧ 0 ≤ d)) := by
  have nan : ∀ x y, QClass.nan = fdivClass x y ↔ (x = 0 ∧ y = 0) := fun x y => eq_comm.trans (fdivClass_nan_iff x y)
  rw [← parts_zero_corner_iff hab, ← parts_zero_corner_iff hcd]
  -- a corner of a piece pair is `(0, 0)` exactly when each piece has a zero end point
  simp only [fdivNanCorner, List.any_eq_true, List.contains_eq_mem, List.mem_cons, List.not_mem_nil, or_false,
    decide_eq_true_eq, nan, corner_or]
  exact ⟨fun ⟨x, hx, y, hy, h1, h2⟩ => ⟨⟨x, hx, h1⟩, ⟨y, hy, h2⟩⟩, fun ⟨⟨x, hx, h1⟩, ⟨y, hy, h2⟩⟩ => ⟨x, hx, y, hy, h1, h2⟩⟩

theorem abs_none_iff (x : Int) : abs? x = none ↔ x = minI := by
  unfold abs?; split <;> simp_all

theorem abs_eq_some {x : Int} {a : Nat} (h : abs? x = some a) : x.natAbs = a := by
  unfold abs? at h; split at h
  · cases h
  · exact Option.some.inj h

theorem absUpperOld_none_iff (lo hi : Int) : absUpperOld? lo hi = none ↔ (lo = minI ∨ hi = minI) := by
  rw [← abs_none_iff, ← abs_none_iff, absUpperOld?]
  cases abs? lo with
  | none => exact iff_of_true rfl (.inl rfl)
  | some a => cases abs? hi with
    | none => exact iff_of_true rfl (.inr rfl)
    | some b => exact iff_of_false nofun (fun h => h.elim nofun nofun)

theorem absUpperNew_eq_old (lo hi : Int) (n : Nat) (h : absUpperOld? lo hi = some n) : absUpperNew lo hi = n := by
  obtain ⟨a, ha, h⟩ := Option.bind_eq_some_iff.mp h
  obtain ⟨b, hb, h⟩ := Option.bind_eq_some_iff.mp h
  rw [absUpperNew, abs_eq_some ha, abs_eq_some hb]; exact Option.some.inj h

/-- `unsigned_abs` needs no overflow check: on `i64` bounds the result always fits the unsigned type (`≤ 2⁶³`), `i64::MIN` included -/
theorem absUpperNew_fits (lo hi : Int) (h1 : minI ≤ lo) (h2 : lo ≤ maxI) (h3 : minI ≤ hi) (h4 : hi ≤ maxI) :
    (absUpperNew lo hi : Int) ≤ 9223372036854775808 := by
  unfold absUpperNew minI maxI at *; omega

/-- the saturating operations never leave `i64` (so nothing downstream can overflow on their results) … -/
theorem sat_ops_in_range (x y : Int) :
    (minI ≤ satAdd x y ∧ satAdd x y ≤ maxI) ∧ (minI ≤ satSub x y ∧ satSub x y ≤ maxI) ∧ (minI ≤ satMul x y ∧ satMul x y ≤ maxI) :=
  ⟨clampI_range _, clampI_range _, clampI_range _⟩

/-- … nor does the saturating division where it is defined (`MIN / -1` saturates instead of overflowing) -/
theorem satDiv_range (x y v : Int) (h : satDiv? x y = some v) : minI ≤ v ∧ v ≤ maxI := by
  unfold satDiv? at h
  split at h
  · simp at h
  · simp only [Option.some.injEq] at h; subst h; exact clampI_range _

theorem satDiv_min_neg_one : satDiv? minI (-1) = some maxI := by decide

/-- saturating multiplication is monotone on non-negative operands (what the corner evaluation on the piece `[0, +∞)²` relies on) -/
theorem satMul_mono_nonneg {a b c d : Int} (ha : 0 ≤ a) (hc : 0 ≤ c) (h1 : a ≤ b) (h2 : c ≤ d) : satMul a c ≤ satMul b d :=
  clampI_mono (Int.mul_le_mul h1 h2 hc (Int.le_trans ha h1))

/-- the upper bound `Map::size` computes is non-negative whatever the OFFSET (in particular one beyond the input size): it is
subtracted under `max 0`; only the LIMIT has to be non-negative -/
theorem mapSizeHi_nonneg (inputMax : Int) (offset limit : Option Int) (hm : 0 ≤ inputMax) (hl : ∀ l, limit = some l → 0 ≤ l) :
    0 ≤ mapSizeHi inputMax offset limit := by
  have hm' : 0 ≤ mapSizeHi inputMax offset none := by
    cases offset with
    | none => exact hm
    | some o => exact Int.le_max_left ..
  cases limit with
  | none => exact hm'
  | some l => exact Int.le_min.2 ⟨hl l rfl, hm'⟩

/-- `Map::size`: with non-negative input size, OFFSET and LIMIT, the interval `[0, hi]` handed to `Integer::from_interval` is well formed,
whatever the OFFSET (in particular beyond the input size) -/
theorem map_size_interval_ordered (inputMax : Int) (offset limit : Option Int) (hm : 0 ≤ inputMax)
    (ho : ∀ o, offset = some o → 0 ≤ o) (hl : ∀ l, limit = some l → 0 ≤ l) : 0 ≤ mapSizeHi inputMax offset limit :=
  mapSizeHi_nonneg inputMax offset limit hm hl

theorem usizeToI64Sat_nonneg (n : Nat) : 0 ≤ usizeToI64Sat n := by
  unfold usizeToI64Sat; split
  · exact Int.natCast_nonneg n
  · decide

/-- … and with the saturating conversion of the `usize` LIMIT / OFFSET the hypothesis on their sign is always met: for *every* LIMIT and
OFFSET a query can carry the interval is well formed -/
theorem map_size_total (inputMax : Int) (offset limit : Option Nat) (hm : 0 ≤ inputMax) :
    0 ≤ mapSizeHi inputMax (offset.map usizeToI64Sat) (limit.map usizeToI64Sat) :=
  mapSizeHi_nonneg inputMax _ _ hm fun l hl => by
    obtain ⟨n, _, rfl⟩ := Option.map_eq_some_iff.mp hl
    exact usizeToI64Sat_nonneg n

/-- the conversion as it was (`as i64`): `LIMIT 18446744073709551615` becomes −1 and the interval `[0, −1]` is built -/
theorem map_size_wrapping_counterexample : mapSizeHi 100 none (some (usizeAsI64 18446744073709551615)) < 0 := by decide

/-- the `saturating_sub` variant is negative as soon as the OFFSET exceeds the input size: the interval assertion fires -/
theorem map_size_saturating_counterexample : mapSizeHiSaturating 100 (some 200) (some 10) < 0 := by decide

/-- Non-vacuity and the concrete failing shapes: `[-32, 6] / [0, 5]` panics, `[-32, 6] / [1, 5]` does not;
`i64::MIN` breaks the old absolute bound. -/
example : divImage? (-32) 6 0 5 = none ∧ divImage? (-32) 6 1 5 ≠ none ∧ absUpperOld? minI 0 = none ∧ absUpperNew minI 0 = 9223372036854775808 := by
  refine ⟨by decide, by decide, by decide, by decide⟩

end Qrlew.C18
