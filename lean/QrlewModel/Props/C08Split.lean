import QrlewModel.Model.Split
/-!
# C08 — the Map / Reduce / Map split of a select item keeps its value

`split_preserves`: for every select item built from aggregates of row-level expressions and scalar functions, every
group of rows, and every naming of the intermediate columns that is injective on the columns of that item, running the
three layers gives the value of the item.  Names being functions of the content is what makes merged duplicates harmless
(`lookup_map`); a naming that identifies two different aggregates is a counterexample (`name_collision_counterexample`),
and two identical select items without alias collapse into one output column (`duplicate_unnamed_items_collapse`).
-/
namespace Qrlew.C08
open Qrlew.Split

/-- reading by name from columns that are named by an injective-on-`l` function of their content returns the content's value -/
theorem lookup_map {κ ν : Type} [DecidableEq ν] (nm : κ → ν) (f : κ → Int) (l : List κ) (k : κ) (hk : k ∈ l)
    (hinj : ∀ k' ∈ l, nm k' = nm k → f k' = f k) : lookup (l.map fun x => (nm x, f x)) (nm k) = f k := by
  induction l with
  | nil => cases hk
  | cons x rest ih =>
    rw [List.map_cons, lookup]
    split
    · next hx => exact hinj x List.mem_cons_self hx
    · next hx =>
      -- `k` is not the head, whose name differs
      refine ih ((List.mem_cons.mp hk).resolve_left fun e => hx (e ▸ rfl)) fun k' hk' => hinj k' (List.mem_cons_of_mem _ hk')
theorem evalP_post {σ ν : Type} [DecidableEq σ] [DecidableEq ν] (sname : S → σ) (name : Agg × S → ν) (rows : List Row)
    (env : List (ν × Int)) (a : A)
    (henv : ∀ k ∈ aggs a, lookup env (name k) = aggFn k.1 (rows.map fun r => evalS r k.2)) :
    evalP env (post name a) = evalA rows a := by
  -- `post` and `evalA` have the same shape; they differ at the aggregates, where `henv` applies
  induction a with
  | agg g s => exact henv (g, s) List.mem_cons_self
  | lit n => rfl
  | app1 f a ih => exact congrArg (fn1 f) (ih henv)
  | app2 f a b iha ihb =>
    exact congr (congrArg (fn2 f) (iha fun k hk => henv k (List.mem_append_left _ hk)))
      (ihb fun k hk => henv k (List.mem_append_right _ hk))

/-- the two lower layers, for any list `ks` of aggregate columns: reading an aggregate by name from the Reduce, which reads its
argument by name from the bottom Map, gives the aggregate of the argument's values — for namings injective on `ks` -/
theorem reduce_lookup {σ ν : Type} [DecidableEq σ] [DecidableEq ν] (sname : S → σ) (name : Agg × S → ν) (ks : List (Agg × S))
    (rows : List Row) (hs : ∀ k ∈ ks, ∀ k' ∈ ks, sname k'.2 = sname k.2 → k'.2 = k.2)
    (hn : ∀ k ∈ ks, ∀ k' ∈ ks, name k' = name k → k' = k) (k : Agg × S) (hk : k ∈ ks) :
    lookup (ks.map fun k => (name k, aggFn k.1 (rows.map fun r => lookup (ks.map fun k => (sname k.2, evalS r k.2)) (sname k.2))))
      (name k) = aggFn k.1 (rows.map fun r => evalS r k.2) := by
  rw [lookup_map name _ ks k hk fun k' hk' he => by rw [hn k hk k' hk' he]]
  congr 1
  exact List.map_congr_left fun r _ =>
    lookup_map (fun k : Agg × S => sname k.2) (fun k => evalS r k.2) ks k hk fun k' hk' he => by rw [hs k hk k' hk' he]

/-- the split keeps the value of the item, for namings injective on the item's own intermediate columns -/
theorem split_preserves {σ ν : Type} [DecidableEq σ] [DecidableEq ν] (sname : S → σ) (name : Agg × S → ν) (a : A) (rows : List Row)
    (hs : ∀ s ∈ pre a, ∀ s' ∈ pre a, sname s' = sname s → s' = s)
    (hn : ∀ k ∈ aggs a, ∀ k' ∈ aggs a, name k' = name k → k' = k) :
    evalSplit sname name a rows = evalA rows a := by
  refine evalP_post sname name rows _ a fun k hk => ?_
  simp only [reduceOut, mapOut, pre, List.map_map, Function.comp_def]
  exact reduce_lookup sname name (aggs a) rows
    (fun k hk k' hk' => hs k.2 (List.mem_map_of_mem hk) k'.2 (List.mem_map_of_mem hk')) hn k hk

/-- **A whole select list**: the row the three layers produce has one column per select item, *in the order of the select list*,
under the item's output name and with the item's value — for any number of items (aggregate-free ones, such as literals, included,
wherever they stand) and any naming that is injective on the aggregates of the list and on their arguments. -/
theorem split_list_preserves {ι σ ν : Type} [DecidableEq σ] [DecidableEq ν] (sname : S → σ) (name : Agg × S → ν)
    (items : List (ι × A)) (rows : List Row)
    (hs : ∀ k ∈ aggsAll items, ∀ k' ∈ aggsAll items, sname k'.2 = sname k.2 → k'.2 = k.2)
    (hn : ∀ k ∈ aggsAll items, ∀ k' ∈ aggsAll items, name k' = name k → k' = k) :
    evalSplitAll sname name items rows = items.map fun it => (it.1, evalA rows it.2) := by
  rw [evalSplitAll, topAll, List.map_map]
  refine List.map_congr_left fun it hit => congrArg (Prod.mk it.1) (evalP_post sname name rows _ it.2 fun k hk => ?_)
  exact reduce_lookup sname name (aggsAll items) rows hs hn k (List.mem_flatMap.mpr ⟨it, hit, hk⟩)

/-- non-vacuity: `SELECT 7 AS l, count(c0) AS n, sum(c0) + 1 AS t` — the literal stays first -/
example : evalSplitAll id id [("l", A.lit 7), ("n", A.agg .count (.col 0)), ("t", A.app2 .plus (A.agg .sum (.col 0)) (A.lit 1))] [[3], [5]]
    = [("l", 7), ("n", 2), ("t", 9)] := by decide +kernel

/-- with the identity naming (content itself) the hypotheses hold trivially -/
theorem split_preserves_content_names (a : A) (rows : List Row) : evalSplit id id a rows = evalA rows a :=
  split_preserves id id a rows (fun _ _ _ _ h => h) (fun _ _ _ _ h => h)

/-- a naming that gives `sum(c0)` and `max(c0)` the same name makes the split wrong -/
theorem name_collision_counterexample :
    evalSplit id (fun _ => 0) (.app2 .minus (.agg .sum (.col 0)) (.agg .max (.col 0))) [[1], [2]] ≠
      evalA [[1], [2]] (.app2 .minus (.agg .sum (.col 0)) (.agg .max (.col 0))) := by decide

/-- two identical select items without alias get the same content-derived name: one output column is left -/
theorem duplicate_unnamed_items_collapse :
    (outputNames id [(none, A.agg .sum (.col 0)), (none, A.agg .sum (.col 0))]).length = 1 := by decide

/-- Non-vacuity: `1 + max(c0) * 2` over a group with values 3, 5 is 11 both ways. -/
example : evalSplit id id (.app2 .plus (.lit 1) (.app2 .times (.agg .max (.col 0)) (.lit 2))) [[3], [5]] = 11 ∧
    evalA [[3], [5]] (.app2 .plus (.lit 1) (.app2 .times (.agg .max (.col 0)) (.lit 2))) = 11 := by decide

end Qrlew.C08
