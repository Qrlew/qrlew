import QrlewModel.Model.Quote
/-!
# C08 — rendering keeps the value of string literals and quoted identifiers (text layer)

`unesc_esc`: for every string without a backslash-quote or a doubled quote, reading back what the renderer
writes gives the string again, for any quote character (`'` for literals, `"` / backtick for identifiers).
The two excluded shapes are real counterexamples (the escaping routine assumes they are already escaped),
and bracket quoting cannot carry a `]`.
-/
namespace Qrlew.C08
open Qrlew.Quote

theorem unesc_cons_ne (q c : Char) (l : List Char) (h : (c == q) = false) :
    unesc q (c :: l) = (unesc q l).map (c :: ·) := by
  cases l with
  | nil => simp [unesc, h]
  | cons c' r => simp [unesc, h]

theorem unesc_qq (q : Char) (l : List Char) : unesc q (q :: q :: l) = (unesc q l).map (q :: ·) := by
  simp [unesc]

theorem unesc_esc (q : Char) (s : List Char) : ∀ prev, Clean q prev s → unesc q (esc q prev s) = some s := by
  intro prev
  fun_induction esc q prev s with
  | case1 => exact fun _ => rfl
  -- a quote left as it is, after a backslash or before another quote: `Clean` has none
  | case2 _ _ hc hp | case5 _ _ _ _ hc hp => exact fun h => absurd (beq_iff_eq.mp hp) (h.1 (beq_iff_eq.mp hc)).1
  | case6 _ _ _ _ hc _ hc' => exact fun h => absurd (congrArg some (beq_iff_eq.mp hc')) (h.1 (beq_iff_eq.mp hc)).2
  -- a doubled quote is read as one
  | case3 _ _ hc => intro _; rw [unesc_qq, beq_iff_eq.mp hc]; rfl
  | case7 _ _ _ _ hc _ _ ih => intro h; rw [unesc_qq, ih h.2, beq_iff_eq.mp hc]; rfl
  -- any other character as itself
  | case4 _ _ hc => intro _; rw [unesc_cons_ne _ _ _ (eq_false_of_ne_true hc)]; rfl
  | case8 _ _ _ _ hc ih => intro h; rw [unesc_cons_ne _ _ _ (eq_false_of_ne_true hc), ih h.2]; rfl

/-- string literals (rendering starts with no previous character) -/
theorem literal_round_trip (s : List Char) (h : Clean '\'' (default : Char) s) :
    unesc '\'' (esc '\'' default s) = some s := unesc_esc '\'' s default h

/-- quoted identifiers with a doubling quote style -/
theorem ident_round_trip (q : Char) (s : List Char) (h : Clean q (default : Char) s) :
    unesc q (esc q default s) = some s := unesc_esc q s default h

/-- a value with two consecutive quotes is written unchanged and read back with one quote (`a''b` ↦ `a'b`) -/
theorem doubled_quote_counterexample :
    unesc '\'' (esc '\'' default ['a', '\'', '\'', 'b']) = some ['a', '\'', 'b'] := by decide

/-- a quote after a backslash is written unescaped: the literal body then contains a lone quote -/
theorem backslash_quote_counterexample : unesc '\'' (esc '\'' default ['a', '\\', '\'', 'b']) = none := by decide

/-- bracket quoting cannot escape its closing delimiter -/
theorem bracket_counterexample : unbracket (bracket ['a', ']', 'b']) = some ['a'] := by decide

/-- bracket quoting is faithful for names without `]` -/
theorem bracket_round_trip (s : List Char) (h : ∀ c ∈ s, c ≠ ']') : unbracket (bracket s) = some s := by
  rw [bracket, List.cons_append, unbracket, List.takeWhile_append_of_pos fun c hc => bne_iff_ne.mpr (h c hc),
    List.takeWhile_cons_of_neg (by decide), List.append_nil]

/-- Non-vacuity: an ordinary apostrophe is doubled and read back. -/
example : esc '\'' default ['i', 't', '\'', 's'] = ['i', 't', '\'', '\'', 's'] ∧ Clean '\'' default ['i', 't', '\'', 's'] := by
  refine ⟨by decide, ?_⟩
  simp [Clean]

end Qrlew.C08
