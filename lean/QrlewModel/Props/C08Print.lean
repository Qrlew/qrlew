import QrlewModel.Model.Print
/-!
# C08 / C16 — what the translators write is read back as the same expression

`Qrlew.Print.print` is the model of the translators' expression writer (compared token by token with the real one by the
`exprprint` stream).  `parse_print`: for every expression — any nesting of infix, prefix and suffix operators, *whatever their
precedences* — the written text is read back as exactly that expression by a reader that knows no precedence at all; in
particular `print` is injective: two different expressions are never written alike.  `printOld_not_delimited`: the writer as it was
before `fix:` 2471664 left the `IS NULL` of `(a OR b) IS NULL` dangling after `a OR b`.
-/
namespace Qrlew.C08
open Qrlew.Print

theorem parse_print (e : PE) : ∀ (fuel : Nat) (rest : List Tok), size e ≤ fuel → parse fuel (print e ++ rest) = some (e, rest) := by
  -- every sub-expression is written between delimiters the reader recognises, and is read with the fuel that is left
  induction e with
  | atom n => intro fuel rest h; cases fuel with
    | zero => cases h
    | succ f => rfl
  | bin k l r ihl ihr =>
    intro fuel rest h
    cases fuel with
    | zero => cases h
    | succ f =>
      rw [size] at h
      simp only [print, List.append_assoc, List.cons_append, List.nil_append, parse, ihl f _ (by omega), ihr f _ (by omega)]
  | pre k x ih =>
    intro fuel rest h
    cases fuel with
    | zero => cases h
    | succ f => simp only [print, List.append_assoc, List.cons_append, List.nil_append, parse, ih f _ (Nat.le_of_succ_le_succ h)]
  | suf k x ih =>
    intro fuel rest h
    cases fuel with
    | zero => cases h
    | succ f => simp only [print, List.append_assoc, List.cons_append, List.nil_append, parse, ih f _ (Nat.le_of_succ_le_succ h)]
/-- **Unambiguous in context**: no written expression is a proper prefix of another — whatever follows it (the next select item,
a closing parenthesis, a keyword), the text splits in exactly one way. -/
theorem print_prefix_free (a b : PE) (r1 r2 : List Tok) (h : print a ++ r1 = print b ++ r2) : a = b ∧ r1 = r2 := by
  have ha := parse_print a (size a + size b) r1 (by omega)
  have hb := parse_print b (size a + size b) r2 (by omega)
  rw [h, hb] at ha
  simp only [Option.some.injEq, Prod.mk.injEq] at ha
  exact ⟨ha.1.symm, ha.2.symm⟩

/-- **Rendering is unambiguous**: the text determines the expression. -/
theorem print_injective (a b : PE) (h : print a = print b) : a = b :=
  (print_prefix_free a b [] [] (by rw [h])).1

/-- a sequence of written expressions (a select list, an argument list) is read back as that sequence -/
theorem print_list_injective : ∀ (as bs : List PE), as.length = bs.length → as.flatMap print = bs.flatMap print → as = bs
  | [], [], _, _ => rfl
  | [], _ :: _, hl, _ => by simp at hl
  | _ :: _, [], hl, _ => by simp at hl
  | a :: as, b :: bs, hl, h => by
    simp only [List.flatMap_cons] at h
    obtain ⟨e1, e2⟩ := print_prefix_free a b _ _ h
    rw [e1, print_list_injective as bs (by simpa using hl) e2]

/-- the writer before the repair did not delimit the operand of a suffix predicate: of `(a ∨ b) IS NULL` the reader gets `a ∨ b`
followed by a dangling `IS NULL` — where it attaches is left to the precedence table of whoever reads the text (SQL attaches it
to `b`), and a prefix operator's text is the same for `(NOT a) IS NULL` as SQL's reading of `NOT (a IS NULL)` -/
theorem printOld_not_delimited :
    parse 10 (printOld (.suf 0 (.bin 1 (.atom 0) (.atom 1)))) = some (.bin 1 (.atom 0) (.atom 1), [.suf 0]) ∧
    parse 10 (printOld (.suf 0 (.pre 2 (.atom 0)))) = some (.pre 2 (.atom 0), [.suf 0]) := by decide

example : parse 10 (print (.suf 0 (.bin 1 (.atom 0) (.pre 2 (.atom 1))))) = some (.suf 0 (.bin 1 (.atom 0) (.pre 2 (.atom 1))), []) := by decide

end Qrlew.C08
