import QrlewModel.Model.Pup
import QrlewModel.Lemmas.Lists
/-!
# C05 — a tracked row depends only on its own unit's data (operator-level non-interference)

For each operator of the privacy-unit-preserving rewriting, restricting the output to a unit `u` is the
same as running the operator on the inputs restricted to `u` (published inputs are not restricted).
By induction this lifts to every tree of these operators.  Counterexamples (kernel-checked) for the two
constructs that break it on the real code as well: a kept `LIMIT`, and outer joins preserving the
non-tracked side (NULL unit id).
-/
namespace Qrlew.C05
open Qrlew.Pup

variable {U α β γ : Type} [DecidableEq U]

theorem restrict_pmap (u : U) (f : α → β) (R : List (U × α)) :
    restrict u (pmap f R) = pmap f (restrict u R) := List.filter_map

theorem restrict_pfilter (u : U) (p : α → Bool) (R : List (U × α)) :
    restrict u (pfilter p R) = pfilter p (restrict u R) := by
  simp only [restrict, pfilter, List.filter_filter]
  congr 1; funext r; exact Bool.and_comm _ _

theorem restrict_punion (u : U) (R S : List (U × α)) :
    restrict u (punion R S) = punion (restrict u R) (restrict u S) := List.filter_append ..

/-- generic step: if every output row of `F r` carries the unit of `r`, restricting commutes with `flatMap F` -/
theorem restrict_flatMap {δ : Type} (u : U) (R : List (U × α)) (F : U × α → List (U × δ))
    (hF : ∀ r, ∀ x ∈ F r, x.1 = r.1) : restrict u (R.flatMap F) = (restrict u R).flatMap F := by
  induction R with
  | nil => rfl
  | cons r t ih =>
    -- the rows of `F r` pass or fail the test together with `r`
    have hr : (F r).filter (fun x => x.1 == u) = (F r).filter fun _ => r.1 == u :=
      List.filter_congr fun x hx => by rw [hF r x hx]
    unfold restrict at ih ⊢
    rw [List.flatMap_cons, List.filter_append, ih, hr, List.filter_cons]
    cases r.1 == u <;> simp

theorem flatMap_congr_on {δ ε : Type} (l : List δ) (f g : δ → List ε) (h : ∀ x ∈ l, f x = g x) : l.flatMap f = l.flatMap g := by
  induction l with
  | nil => rfl
  | cons a t ih =>
    simp only [List.flatMap_cons]
    rw [h a List.mem_cons_self, ih (fun x hx => h x (List.mem_cons_of_mem _ hx))]

theorem restrict_joinPublished (u : U) (on : α → β → Bool) (R : List (U × α)) (P : List β) :
    restrict u (joinPublished on R P) = joinPublished on (restrict u R) P :=
  restrict_flatMap u R _ fun r x hx => by obtain ⟨b, _, rfl⟩ := List.mem_map.mp hx; rfl

theorem restrict_leftJoinPublished (u : U) (on : α → β → Bool) (R : List (U × α)) (P : List β) :
    restrict u (leftJoinPublished on R P) = leftJoinPublished on (restrict u R) P := by
  unfold leftJoinPublished
  apply restrict_flatMap
  intro r x hx
  simp only at hx
  split at hx
  · rw [List.mem_singleton.mp hx]
  · obtain ⟨b, _, rfl⟩ := List.mem_map.mp hx; rfl

/-- joining two tracked relations: only rows of the same unit meet, so the unit's output rows are
computed from the unit's rows of both sides -/
theorem restrict_joinTracked (u : U) (on : α → β → Bool) (R : List (U × α)) (S : List (U × β)) :
    restrict u (joinTracked on R S) = joinTracked on (restrict u R) (restrict u S) := by
  have h1 : restrict u (joinTracked on R S) = joinTracked on (restrict u R) S :=
    restrict_flatMap u R _ fun r x hx => by obtain ⟨s, _, rfl⟩ := List.mem_map.mp hx; rfl
  rw [h1]
  refine flatMap_congr_on _ _ _ fun r hr => ?_
  -- a row of unit `u` only meets rows of unit `u`
  obtain rfl : r.1 = u := beq_iff_eq.mp (List.mem_filter.mp hr).2
  rw [restrict, Lists.filter_filter_of_imp fun s _ h => by
    rw [Bool.and_eq_true, beq_iff_eq] at h; exact beq_iff_eq.mpr h.1.symm]

/-- a unit's per-unit aggregates are computed from its own rows only -/
theorem restrict_preduce [DecidableEq γ] (u : U) (key : α → γ) (agg : List α → β) (R : List (U × α)) :
    (restrict u (preduce key agg R)).map (·.2.2) =
      ((preduce key agg R).filter fun g => g.1 == u).map fun g =>
        agg (((restrict u R).filter fun r => key r.2 == g.2.1).map (·.2)) := by
  simp only [restrict, preduce, List.filter_map, List.map_map, Function.comp_def]
  refine List.map_congr_left fun g hg => ?_
  obtain rfl : g.1 = u := beq_iff_eq.mp (List.mem_filter.mp hg).2
  rw [List.filter_filter]
  simp only [Bool.and_comm]

/-! ### the constructs that break it -/

/-- a `LIMIT` kept on a tracked map: deleting another unit's rows lets this unit's rows slide in -/
theorem limit_interferes :
    restrict 2 (plimit 1 [((1 : Nat), "a"), (2, "b")]) ≠ plimit 1 (restrict 2 [((1 : Nat), "a"), (2, "b")]) := by decide

/-- RIGHT/FULL outer join preserving the published side: unmatched rows have no unit id -/
theorem rightJoin_null_unit :
    (none, (none, "x")) ∈ rightJoinPublished (fun (_ : String) (_ : String) => false) [((1 : Nat), "a")] ["x"] := by decide

/-! ## Neighbouring datasets: removing one unit leaves every other unit's output rows as they were -/

/-- the dataset without the rows of unit `u` -/
def without (u : U) (R : List (U × α)) : List (U × α) := R.filter fun r => !(r.1 == u)

theorem restrict_without (u v : U) (hne : v ≠ u) (R : List (U × α)) : restrict v (without u R) = restrict v R :=
  Lists.filter_filter_of_imp fun r _ h => by rw [beq_iff_eq.mp h]; simpa using hne

/-- **Non-interference between neighbours**, for every operator (or tree of operators) that commutes with `restrict`: the rows
the output attributes to a unit `v` are the same whether or not another unit `u` is in the data. -/
theorem neighbour_stable {δ : Type} (op : List (U × α) → List (U × δ)) (hop : ∀ v R, restrict v (op R) = op (restrict v R))
    (u v : U) (hne : v ≠ u) (R : List (U × α)) : restrict v (op (without u R)) = restrict v (op R) := by
  rw [hop, hop, restrict_without u v hne]

/-- instances: projection, WHERE, joins with published data — and any composition of them -/
theorem neighbour_stable_pmap (f : α → β) (u v : U) (hne : v ≠ u) (R : List (U × α)) :
    restrict v (pmap f (without u R)) = restrict v (pmap f R) :=
  neighbour_stable (pmap f) (fun v R => restrict_pmap v f R) u v hne R

theorem neighbour_stable_pfilter (p : α → Bool) (u v : U) (hne : v ≠ u) (R : List (U × α)) :
    restrict v (pfilter p (without u R)) = restrict v (pfilter p R) :=
  neighbour_stable (pfilter p) (fun v R => restrict_pfilter v p R) u v hne R

theorem neighbour_stable_joinPublished (on : α → β → Bool) (P : List β) (u v : U) (hne : v ≠ u) (R : List (U × α)) :
    restrict v (joinPublished on (without u R) P) = restrict v (joinPublished on R P) :=
  neighbour_stable (fun R => joinPublished on R P) (fun v R => restrict_joinPublished v on R P) u v hne R

theorem neighbour_stable_leftJoinPublished (on : α → β → Bool) (P : List β) (u v : U) (hne : v ≠ u) (R : List (U × α)) :
    restrict v (leftJoinPublished on (without u R) P) = restrict v (leftJoinPublished on R P) :=
  neighbour_stable (fun R => leftJoinPublished on R P) (fun v R => restrict_leftJoinPublished v on R P) u v hne R

theorem commutes_comp {δ ε : Type} (f : List (U × α) → List (U × δ)) (g : List (U × δ) → List (U × ε))
    (hf : ∀ v R, restrict v (f R) = f (restrict v R)) (hg : ∀ v R, restrict v (g R) = g (restrict v R)) :
    ∀ v R, restrict v (g (f R)) = g (f (restrict v R)) := fun v R => by rw [hg, hf]

/-- … while a kept LIMIT is not stable: removing unit 1 changes what unit 2 gets -/
theorem limit_not_neighbour_stable :
    restrict 2 (plimit 1 (without 1 [((1 : Nat), "a"), (2, "b")])) ≠ restrict 2 (plimit 1 [((1 : Nat), "a"), (2, "b")]) := by decide

/-- Non-vacuity: a join of two tracked relations where units share join keys. -/
example : restrict 1 (joinTracked (fun (a b : Nat) => a == b) [((1 : Nat), 7), (2, 7)] [(1, 7), (2, 7)]) = [(1, (7, 7))] := by decide

end Qrlew.C05
